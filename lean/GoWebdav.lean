-- Root of the library: every property module (and through them the models, specifications and lemmas), the regenerated
-- tables with the expectations about them, and the pin equalities.
import GoWebdav.Props.C01
import GoWebdav.Props.C02
import GoWebdav.Props.C03
import GoWebdav.Props.C04
import GoWebdav.Props.C05
import GoWebdav.Props.C06
import GoWebdav.Props.C07
import GoWebdav.Props.C08
import GoWebdav.Props.C08Rfc
import GoWebdav.Props.C09
import GoWebdav.Props.C09Full
import GoWebdav.Props.C09Rfc
import GoWebdav.Props.C10
import GoWebdav.Props.C10Std
import GoWebdav.Props.C11
import GoWebdav.Props.C12
import GoWebdav.Props.C12Discovery
import GoWebdav.Props.C12Dispatch
import GoWebdav.Props.C13
import GoWebdav.Props.C14
import GoWebdav.Props.C15
import GoWebdav.Props.C16
import GoWebdav.Props.C17
import GoWebdav.Props.C18
import GoWebdav.Props.C18Frame
import GoWebdav.Props.C18Local
import GoWebdav.Props.C19
import GoWebdav.Generated.Tables
import GoWebdav.Generated.Schema
import GoWebdav.Generated.Facts
import GoWebdav.Expected.Tables
import GoWebdav.Expected.Concurrency
import GoWebdav.Props.Pin.CaldavGlobals
import GoWebdav.Props.Pin.CaldavIndexShapesByFile
import GoWebdav.Props.Pin.CaldavPanicsByFile
import GoWebdav.Props.Pin.CaldavReceiverWriteTypes
import GoWebdav.Props.Pin.CaldavSchema
import GoWebdav.Props.Pin.CaldavStatusByFile
import GoWebdav.Props.Pin.CarddavGlobals
import GoWebdav.Props.Pin.CarddavIndexShapesByFile
import GoWebdav.Props.Pin.CarddavPanicsByFile
import GoWebdav.Props.Pin.CarddavReceiverWriteTypes
import GoWebdav.Props.Pin.CarddavSchema
import GoWebdav.Props.Pin.CarddavStatusByFile
import GoWebdav.Props.Pin.IndexGuards
import GoWebdav.Props.Pin.InternalGlobals
import GoWebdav.Props.Pin.InternalIndexShapesByFile
import GoWebdav.Props.Pin.InternalPanicsByFile
import GoWebdav.Props.Pin.InternalReceiverWriteTypes
import GoWebdav.Props.Pin.InternalSchema
import GoWebdav.Props.Pin.InternalStatusByFile
import GoWebdav.Props.Pin.WebdavGlobals
import GoWebdav.Props.Pin.WebdavIndexShapesByFile
import GoWebdav.Props.Pin.WebdavPanicsByFile
import GoWebdav.Props.Pin.WebdavReceiverWriteTypes
import GoWebdav.Props.Pin.WebdavSchema
import GoWebdav.Props.Pin.WebdavStatusByFile
