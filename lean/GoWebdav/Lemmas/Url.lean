import GoWebdav.Std.Url
namespace GoWebdav.Lemmas.Url
open GoWebdav GoWebdav.Std.Url

theorem hexValB_hexU : ∀ k < 16, hexValB (hexU k) = some k := by decide

theorem literal_ne_percent (c : UInt8) (h : shouldEscape c = false) : c ≠ 37 := by
  rintro rfl; revert h; decide

theorem unescape_cons_literal (c : UInt8) (rest : Bytes) (h : c ≠ 37) :
    unescape (c :: rest) = (unescape rest).map (c :: ·) := by
  conv => lhs; unfold unescape
  -- only the last alternative is live: the others begin with `%`
  split <;> simp_all

theorem unescape_escapeByte (c : UInt8) (rest : Bytes) :
    unescape (escapeByte c ++ rest) = (unescape rest).map (c :: ·) := by
  unfold escapeByte
  split
  · have hlt := c.toNat_lt
    have : 16 * (c.toNat / 16) + c.toNat % 16 = c.toNat := by omega
    simp only [List.cons_append, List.nil_append, unescape, hexValB_hexU (c.toNat / 16) (by omega),
      hexValB_hexU (c.toNat % 16) (by omega), this, UInt8.ofNat_toNat]
  · next h => exact unescape_cons_literal c rest (literal_ne_percent c (by simpa using h))

theorem unescape_escapePath (p : Bytes) : unescape (escapePath p) = some p := by
  induction p with
  | nil => rfl
  | cons c cs ih => simp [escapePath, unescape_escapeByte, ih]

/-- bytes that neither end the path part of a reference nor are refused as control characters -/
def Safe (b : UInt8) : Prop := b ≠ 35 ∧ b ≠ 63 ∧ isCTL b = false
instance (b : UInt8) : Decidable (Safe b) := by unfold Safe; infer_instance

theorem literal_safe (c : UInt8) (h : shouldEscape c = false) : Safe c := by
  -- `decide` cannot enumerate `UInt8`; it can run through the 256 numbers below it
  have : ∀ n < 256, shouldEscape (UInt8.ofNat n) = false → Safe (UInt8.ofNat n) := by decide +kernel
  simpa using this c.toNat c.toNat_lt (by simpa using h)

theorem hexU_safe : ∀ k < 16, Safe (hexU k) := by decide

theorem escapeByte_safe (c : UInt8) : ∀ b ∈ escapeByte c, Safe b := by
  have hlt := c.toNat_lt
  unfold escapeByte
  split
  · simp only [List.forall_mem_cons]
    exact ⟨by decide, hexU_safe _ (by omega), hexU_safe _ (by omega), by simp⟩
  · next h => simpa using literal_safe c (by simpa using h)

theorem escapePath_safe (p : Bytes) : ∀ b ∈ escapePath p, Safe b := by
  induction p with
  | nil => simp [escapePath]
  | cons c cs ih => simpa [escapePath, or_imp, forall_and] using ⟨escapeByte_safe c, ih⟩

theorem cutAt_not_mem (sep : UInt8) (s : Bytes) (h : ∀ b ∈ s, b ≠ sep) : cutAt sep s = (s, none) := by
  induction s with
  | nil => rfl
  | cons c cs ih =>
    obtain ⟨hc, hcs⟩ := List.forall_mem_cons.mp h
    simp only [cutAt, hc, if_false, ih hcs]

theorem head?_escapePath_ne_slash (q : Bytes) (h : q.head? ≠ some 47) : (escapePath q).head? ≠ some 47 := by
  cases q with
  | nil => simp [escapePath]
  | cons c cs =>
    have hc : c ≠ 47 := by simpa using h
    simp only [escapePath, escapeByte]
    split <;> simp [hc]

/-- an absolute path that does not begin with `//` survives `Href.String` followed by `url.Parse`, byte for byte -/
theorem parseRef_escapePath (q : Bytes) (h2 : q.head? ≠ some 47) :
    parseRef (escapePath (47 :: q)) = .path (47 :: q) := by
  have hsafe := escapePath_safe (47 :: q)
  have hctl : (escapePath (47 :: q)).any isCTL = false := by
    rw [List.any_eq_false]; intro b hb; simp [(hsafe b hb).2.2]
  have hun := unescape_escapePath (47 :: q)
  have hesc : escapePath (47 :: q) = 47 :: escapePath q := rfl
  -- no fragment, no control character, no query; then no scheme
  simp only [parseRef, cutAt_not_mem 35 _ (fun b hb => (hsafe b hb).1), cutAt_not_mem 63 _ (fun b hb => (hsafe b hb).2.1),
    hctl, Bool.not_true, Bool.false_eq_true, if_false]
  rw [hesc] at hun ⊢
  have hscan : schemeScan (47 :: escapePath q) 0 = some false := by simp [schemeScan, isLetter]
  simp only [show (47 :: escapePath q : Bytes) ≠ [42] by simp, if_false, hscan]
  -- of the three shapes `///…`, `//…`, `/…` only the last is left: the second byte is not a slash
  cases hq : escapePath q with
  | nil => simp [hq] at hun; simp [hun]
  | cons b rest =>
    have hb : b ≠ 47 := by simpa [hq] using head?_escapePath_ne_slash q h2
    rw [hq] at hun
    simp [hun, hb]

end GoWebdav.Lemmas.Url
