import GoWebdav.Spec.CaldavWire
import GoWebdav.Lemmas.Xml
/-!
How the CalDAV decoder (`Impl.CaldavWire`) and the strict RFC 4791 reader (`Spec.CaldavWire`) see a child list.  The
decoder fills every field from `pick loc children`; the reader goes by grammar symbols (`tag`, `named`), which among
CalDAV elements (`AllCal`) select the same children.  The recursive list functions of both are `filter`-then-`mapM`.
Nothing here speaks of the encoder's round trips: the proofs about every document (`CaldavAgree`, `CaldavNoise`) rest on this
module alone.  (The declarations keep the namespaces `Lemmas.CaldavWire`, decoder side, and `Lemmas.CaldavRead`, reader side.)
-/
namespace GoWebdav.Lemmas.CaldavWire
open GoWebdav GoWebdav.Std.Xml GoWebdav.Std.Time GoWebdav.Impl.Caldav GoWebdav.Impl.CaldavWire GoWebdav.Spec.CaldavWire
open GoWebdav.Lemmas.Xml

theorem pick_append (loc : String) (a b : List Node) : pick loc (a ++ b) = pick loc a ++ pick loc b :=
  List.filter_append ..

@[simp] theorem pick_nil (loc : String) : pick loc [] = [] := rfl

theorem pick_named {l : String} {cs : List Node} (h : Named nsCal l cs) (loc : String) :
    pick loc cs = if l = loc then cs else [] :=
  h.filter_localIs loc

theorem pick_el (loc l : String) (a : List (QName × String)) (c : List Node) (rest : List Node) :
    pick loc (el l a c :: rest) = if l = loc then el l a c :: pick loc rest else pick loc rest := by
  by_cases h : l = loc <;> simp [pick, el, h]

theorem any_eq_pick (loc : String) (cs : List Node) : cs.any (·.localIs loc) = !(pick loc cs).isEmpty :=
  any_eq_filter _ cs

theorem hasInd_eq (cs : List Node) : hasInd cs = !(pick "is-not-defined" cs).isEmpty := any_eq_pick _ cs

theorem ind_isEmpty (b : Bool) : (ind b).isEmpty = !b := by cases b <;> rfl

theorem decCompFilters_eq (cs : List Node) : decCompFilters cs = (pick "comp-filter" cs).mapM decCompFilter :=
  eq_filter_mapM _ decCompFilter decCompFilters rfl (fun _ _ => by rw [decCompFilters]) cs

theorem decComps_eq (cs : List Node) : decComps cs = (pick "comp" cs).mapM decComp :=
  eq_filter_mapM _ decComp decComps rfl (fun _ _ => by rw [decComps]) cs

theorem hasInd_of (cs : List Node) (i : Bool) (h : pick "is-not-defined" cs = ind i) : hasInd cs = i := by
  rw [hasInd_eq, h, ind_isEmpty, Bool.not_not]

end GoWebdav.Lemmas.CaldavWire

namespace GoWebdav.Lemmas.CaldavRead
open GoWebdav GoWebdav.Std.Xml GoWebdav.Std.Time GoWebdav.Impl.Caldav GoWebdav.Impl.CaldavWire GoWebdav.Spec.CaldavWire
open GoWebdav.Lemmas.CaldavWire GoWebdav.Lemmas.Xml

@[simp] theorem tag_elem (l : String) (a : List (QName × String)) (c : List Node) : tag (.elem ⟨nsCal, l⟩ a c) = l := by
  simp [tag]
@[simp] theorem named_elem (l loc : String) (a : List (QName × String)) (c : List Node) :
    named (.elem ⟨nsCal, l⟩ a c) loc = (l == loc) := by
  simp [named]

/-- symbols that only a CalDAV element has as its tag.  For a literal this is `by simp [CalSym]`: `simp` settles
    (in)equalities of string literals by one differing character, where `decide` has the kernel decode both strings. -/
def CalSym (t : String) : Prop := t ≠ "?" ∧ t ≠ "#" ∧ t.toList.head? ≠ some 'D'

theorem el_of_tag {n : Node} {loc : String} (h : tag n = loc) (hs : CalSym loc) : ∃ a c, n = el loc a c := by
  obtain ⟨h1, h2, h3⟩ := hs
  revert h
  fun_cases tag n with
  | case1 q a c hsp =>
    obtain ⟨sp, l⟩ := q
    cases hsp
    exact fun h => ⟨a, c, h ▸ rfl⟩
  | case2 => rintro rfl; simp [String.toList_append] at h3   -- a DAV: element, "D:…"
  | case3 => exact fun h => absurd h.symm h1   -- an element of another namespace, "?"
  | case4 => exact fun h => absurd h.symm h2   -- no element, "#"

theorem el_of_named {n : Node} {loc : String} (h : named n loc = true) (hs : CalSym loc) : ∃ a c, n = el loc a c :=
  el_of_tag (eq_of_beq h) hs

def AllCal (cs : List Node) : Prop := ∀ n ∈ cs, ∃ l a c, n = el l a c

theorem allCal_of_named {l : String} {cs : List Node} (h : Named nsCal l cs) : AllCal cs := fun n hn =>
  let ⟨a, c, e⟩ := h n hn; ⟨l, a, c, e⟩

theorem AllCal.append {a b : List Node} (ha : AllCal a) (hb : AllCal b) : AllCal (a ++ b) := fun n hn =>
  (List.mem_append.mp hn).elim (ha n) (hb n)

theorem filter_named {cs : List Node} (h : AllCal cs) (loc : String) : cs.filter (named · loc) = pick loc cs :=
  List.filter_congr fun n hn => by obtain ⟨l, a, c, rfl⟩ := h n hn; simp [el]

theorem find_named {cs : List Node} (h : AllCal cs) (loc : String) : cs.find? (named · loc) = (pick loc cs).head? := by
  rw [← filter_named h, List.head?_filter]

theorem contains_tag {cs : List Node} (h : AllCal cs) (loc : String) : (cs.map tag).contains loc = !(pick loc cs).isEmpty := by
  rw [← filter_named h, Bool.eq_iff_iff]
  simp [List.filter_eq_nil_iff, named]

/-- the test both filter readers make for the is-not-defined form -/
theorem indAlone_iff (cs : List Node) :
    cs.length = 1 ∧ cs.all (isEmptyEl · "is-not-defined") = true ↔ cs = [el "is-not-defined" [] []] := by
  constructor
  · intro ⟨hl, ha⟩
    match cs, hl with
    | [c], _ =>
      simp only [List.all_cons, List.all_nil, Bool.and_true, isEmptyEl, Bool.and_eq_true] at ha
      obtain ⟨a, k, rfl⟩ := el_of_named ha.1 (by simp [CalSym])
      match a, k, ha.2 with
      | [], [], _ => rfl
  · rintro rfl; simp [isEmptyEl, el]

theorem readCompFilters_eq (cs : List Node) :
    readCompFilters cs = (cs.filter (named · "comp-filter")).mapM readCompFilter :=
  eq_filter_mapM _ readCompFilter readCompFilters rfl (fun _ _ => by rw [readCompFilters]) cs

theorem readComps_eq (cs : List Node) : readComps cs = (cs.filter (named · "comp")).mapM readComp :=
  eq_filter_mapM _ readComp readComps rfl (fun _ _ => by rw [readComps]) cs

end GoWebdav.Lemmas.CaldavRead
