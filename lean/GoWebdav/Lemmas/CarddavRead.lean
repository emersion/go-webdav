import GoWebdav.Lemmas.CarddavWire
import GoWebdav.Spec.CarddavWire
/-!
Helper lemmas for C09, client → wire: the strict RFC 6352 reader (`Spec.CarddavWire.read*`) reads what the encoder
writes, to the value that was encoded.
-/
namespace GoWebdav.Lemmas.CarddavRead
open GoWebdav GoWebdav.Std.Xml GoWebdav.Impl.CarddavWire GoWebdav.Spec.CarddavWire GoWebdav.Generated
open GoWebdav.Props.C09 GoWebdav.Lemmas.CarddavWire GoWebdav.Lemmas.Xml

@[simp] theorem isC_elem (loc l : String) (a : List (QName × String)) (c : List Node) :
    isC loc (Node.elem ⟨nsCard, l⟩ a c) = (l == loc) := by
  simp [isC, nsC, nsCard]
@[simp] theorem isD_elem (loc l : String) (a : List (QName × String)) (c : List Node) :
    isD loc (Node.elem ⟨nsDav, l⟩ a c) = (l == loc) := by
  simp [isD, nsD, nsDav]
@[simp] theorem isC_elemD (loc l : String) (a : List (QName × String)) (c : List Node) :
    isC loc (Node.elem ⟨nsDav, l⟩ a c) = false := by
  simp [isC, nsC, nsDav]
@[simp] theorem isD_el (loc l : String) (a : List (QName × String)) (c : List Node) : isD loc (el l a c) = false := by
  simp [isD, el, nsD, nsCard]
@[simp] theorem isC_dav (loc l : String) (c : List Node) : isC loc (dav l c) = false := isC_elemD ..
@[simp] theorem emptyC_elem (loc l : String) (a : List (QName × String)) (c : List Node) :
    emptyC loc (Node.elem ⟨nsCard, l⟩ a c) = (l == loc && a.isEmpty && c.isEmpty) := by
  simp [emptyC, nsC, nsCard]

theorem isC_eq_isElem (loc : String) : isC loc = (·.isElem nsCard loc) := by funext n; cases n <;> rfl
theorem isD_eq_isElem (loc : String) : isD loc = (·.isElem nsDav loc) := by funext n; cases n <;> rfl

theorem isC_iff {loc : String} {n : Node} : isC loc n = true ↔ ∃ a c, n = .elem ⟨nsCard, loc⟩ a c := by
  rw [isC_eq_isElem]; exact isElem_iff

theorem isD_iff {loc : String} {n : Node} : isD loc n = true ↔ ∃ a c, n = .elem ⟨nsDav, loc⟩ a c := by
  rw [isD_eq_isElem]; exact isElem_iff

theorem isC_elem_iff {loc : String} {q : QName} {a : List (QName × String)} {c : List Node} :
    isC loc (.elem q a c) = true ↔ q = ⟨nsCard, loc⟩ := by
  obtain ⟨s, l⟩ := q; simp [isC, nsC, nsCard]

theorem isD_elem_iff {loc : String} {q : QName} {a : List (QName × String)} {c : List Node} :
    isD loc (.elem q a c) = true ↔ q = ⟨nsDav, loc⟩ := by
  obtain ⟨s, l⟩ := q; simp [isD, nsD, nsDav]

theorem emptyC_iff {loc : String} {n : Node} : emptyC loc n = true ↔ n = .elem ⟨nsCard, loc⟩ [] [] := by
  constructor
  · intro h
    cases n with
    | elem q a c =>
      obtain ⟨s, l⟩ := q
      simp only [emptyC, Bool.and_eq_true, beq_iff_eq, List.isEmpty_iff] at h
      obtain ⟨⟨⟨rfl, rfl⟩, rfl⟩, rfl⟩ := h
      rfl
    | _ => cases h
  · rintro rfl; simp

/-- the reader's test for the one-child alternative of a content model (is-not-defined, allprop) -/
theorem single_emptyC_iff {loc : String} {cs : List Node} :
    (cs.length = 1 ∧ cs.all (emptyC loc) = true) ↔ cs = [.elem ⟨nsCard, loc⟩ [] []] := by
  constructor
  · rintro ⟨hl, ha⟩
    obtain ⟨c, rfl⟩ := List.length_eq_one_iff.mp hl
    rw [emptyC_iff.mp (show emptyC loc c = true by simpa using ha)]
  · rintro rfl; simp

theorem named_isC {l : String} {cs : List Node} (h : Named nsCard l cs) (loc : String) : ∀ n ∈ cs, isC loc n = (l == loc) :=
  fun n hn => by obtain ⟨a, c, rfl⟩ := h n hn; simp

theorem all_isText_textNodes (s : String) : (textNodes s).all isText = true := by
  unfold textNodes; by_cases h : s = "" <;> simp [h, isText]

/-- the generated enumeration tables hold the DTD's values -/
theorem matchTypes_eq : carddavMatchTypes = matchTypes := rfl
theorem tests_eq : carddavFilterTests = tests := rfl

theorem attrsOK_append (allowed : List String) (a b : List (QName × String)) :
    attrsOK allowed (a ++ b) = (attrsOK allowed a && attrsOK allowed b) := List.all_append

theorem attrsOK_atOpt (allowed : List String) (loc v : String) (h : loc ∈ allowed) : attrsOK allowed (atOpt loc v) = true := by
  unfold atOpt; split <;> simp [attrsOK, att, h]

theorem readEnum_atOpt (valid : List String) (pre : List (QName × String)) (loc v : String) (hpre : attr pre loc = none)
    (hv : (v = "" || valid.contains v) = true) : readEnum valid (pre ++ atOpt loc v) loc = some v := by
  rw [readEnum, attr_append_atOpt _ _ _ hpre]
  by_cases h : v = ""
  · simp [h]
  · have hc : valid.contains v = true := by simpa [h] using hv
    simp only [h, if_false, hc, if_true]

theorem readTextMatch_enc (t : TextMatch) (h : TMok t) : readTextMatch (encTextMatch t) = some t := by
  obtain ⟨text, neg, mt⟩ := t
  -- `h` speaks of the regenerated table, the reader of its own literals: the two are the same list (`matchTypes_eq`, by `rfl`)
  have hmt := readEnum_atOpt matchTypes (negAttr neg) "match-type" mt (by cases neg <;> simp [negAttr, carddavNegateFormat, attr, att]) h
  have hneg : readNegate (negAttr neg ++ atOpt "match-type" mt) = some neg := by
    cases neg
    · simp [readNegate, negAttr, carddavNegateFormat, attr_atOpt_ne]
    · simp [readNegate, negAttr, carddavNegateFormat, attr, att]
  have hok : attrsOK ["collation", "negate-condition", "match-type"] (negAttr neg ++ atOpt "match-type" mt) = true := by
    rw [attrsOK_append, attrsOK_atOpt _ _ _ (by simp), Bool.and_true]; cases neg <;> rfl
  simp [readTextMatch, encTextMatch, el, hok, all_isText_textNodes, hneg, hmt, chardata_textNodes]

theorem readParamFilter_node (p : ParamFilter) (h : Paramok p) : readParamFilter (paramNode p) = some p := by
  obtain ⟨name, i, tm⟩ := p
  obtain ⟨h1, h2⟩ := h
  have hbody : readParamBody (indNodes i ++ optTM tm) = some (i, tm) := by
    cases i with
    | true => cases h1 rfl; simp [indNodes, optTM, readParamBody, el]
    | false =>
      cases tm with
      | none => rfl
      | some t =>
        have hne : emptyC "is-not-defined" (encTextMatch t) = false := by simp [encTextMatch, el]
        simp [indNodes, optTM, readParamBody, readTextMatch_enc t (h2 t rfl), hne]
  simp [paramNode, readParamFilter, el, attrsOK, att, attr, hbody]

theorem readPropBody_runs (A B : List Node) (hA : Named nsCard "text-match" A) (hB : Named nsCard "param-filter" B) :
    readPropBody (A ++ B) = (do
      let tms ← A.mapM readTextMatch
      let pms ← B.mapM readParamFilter
      pure (false, tms, pms)) := by
  have hnot : ¬ ((A ++ B).length = 1 ∧ (A ++ B).all (emptyC "is-not-defined") = true) := by
    rw [single_emptyC_iff]
    intro h
    rcases List.mem_append.mp (h ▸ List.mem_singleton.mpr rfl) with hm | hm
    · obtain ⟨a, k, e⟩ := hA _ hm; simp at e
    · obtain ⟨a, k, e⟩ := hB _ hm; simp at e
  obtain ⟨h1, h2⟩ := takeWhile_dropWhile_append (isC "text-match") A B (fun x hx => by simp [named_isC hA _ x hx])
    (fun x hx => by simp [named_isC hB _ x hx])
  obtain ⟨h3, h4⟩ := takeWhile_dropWhile_append (isC "param-filter") B [] (fun x hx => by simp [named_isC hB _ x hx])
    (fun x hx => by cases hx)
  rw [List.append_nil] at h3 h4
  simp only [readPropBody, hnot, if_false, h1, h2, h3, h4, List.isEmpty_nil, Bool.not_true, Bool.false_eq_true]

theorem readPropFilter_node (p : PropFilter) (h : PFok p) : readPropFilter (propNode p) = some p := by
  obtain ⟨name, test, i, tms, params⟩ := p
  obtain ⟨htest, hind, htm, hpar⟩ := h
  have hattrs : attrsOK ["name", "test"] ([att "name" name] ++ atOpt "test" test) = true := by
    rw [attrsOK_append, attrsOK_atOpt _ _ _ (by simp), Bool.and_true]; rfl
  have hname : attr ([att "name" name] ++ atOpt "test" test) "name" = some name := by simp [attr, att]
  have hbody : readPropBody (indNodes i ++ tms.map encTextMatch ++ params.map paramNode) = some (i, tms, params) := by
    cases i with
    | true =>
      obtain ⟨rfl, rfl⟩ := hind rfl
      simp [indNodes, readPropBody, el]
    | false =>
      rw [indNodes, if_neg (by simp), List.nil_append, readPropBody_runs _ _ (named_textMatches tms) (named_paramNodes params),
        mapM_map_some _ _ tms (fun t ht => readTextMatch_enc t (htm t ht)),
        mapM_map_some _ _ params (fun x hx => readParamFilter_node x (hpar x hx))]
      rfl
  simp only [propNode, readPropFilter, el, isC_elem, beq_self_eq_true, hattrs, Bool.and_self, Bool.not_true, Bool.false_eq_true,
    if_false, hname, readEnum_atOpt tests [att "name" name] "test" test rfl htest, hbody, bind, Option.bind, pure]

theorem readFilter_enc (t : String) (pfs : List PropFilter) (ht : validTest t = true) (hpf : ∀ pf ∈ pfs, PFok pf) :
    readFilter (el "filter" (atOpt "test" t) (pfs.map propNode)) = some (t, pfs) := by
  have htest := readEnum_atOpt tests [] "test" t rfl ht
  rw [List.nil_append] at htest
  simp only [readFilter, el, isC_elem, beq_self_eq_true, attrsOK_atOpt ["test"] "test" t (by simp), Bool.and_self, Bool.not_true,
    Bool.false_eq_true, if_false, htest,
    mapM_map_some propNode readPropFilter pfs (fun p hp => readPropFilter_node p (hpf p hp)), bind, Option.bind, pure]

theorem readAddressData_enc (allProp : Bool) (props : List String) :
    readAddressData (el "address-data" [] (if allProp then [el "allprop" [] []] else props.map (fun n => el "prop" [att "name" n] [])))
      = some (allProp, if allProp then [] else props) := by
  cases allProp
  · have hprops : (props.map (fun n => el "prop" [att "name" n] [])).mapM readProp = some props :=
      mapM_map_some _ readProp props (fun n _ => by simp [readProp, el, attrsOK, att, attr])
    have hnot : ¬ ((props.map (fun n => el "prop" [att "name" n] [])).length = 1 ∧
        (props.map (fun n => el "prop" [att "name" n] [])).all (emptyC "allprop") = true) := by
      rw [single_emptyC_iff]; cases props <;> simp [el]
    simp only [el] at hprops hnot
    simp only [readAddressData, el, isC_elem, beq_self_eq_true, attrsOK, List.all_nil, Bool.and_self, Bool.not_true, Bool.false_eq_true,
      if_false, hnot, hprops, Option.map_some]
  · simp [readAddressData, el, attrsOK]

theorem readPropReq_enc (allProp : Bool) (props : List String) :
    readPropReq (encPropReq allProp props) = some (allProp, if allProp then [] else props) := by
  have h := readAddressData_enc allProp props
  simp only [el] at h
  simp [readPropReq, encPropReq, dav, el, isElemNode, dataOf, h]

theorem readLimit_enc (limit : Int) (h : limit > 0) : ∃ l, encLimit limit = [l] ∧ readLimit l = some limit := by
  have hne : (Std.Decimal.natDigits limit.toNat).isEmpty = false := by
    simpa using Std.Decimal.natDigits_ne_nil limit.toNat
  have hk : ((limit.toNat : Nat) : Int) = limit := by omega
  have h0 : ¬ limit.toNat = 0 := by omega
  refine ⟨_, if_pos h, ?_⟩
  simp [readLimit, readNResults, el, isText, chardata, hne, Std.Decimal.readDigits_natDigits, hk, h0]

theorem leadProp_encPropReq (allProp : Bool) (props : List String) (rest : List Node) :
    leadProp (encPropReq allProp props :: rest) = (some (allProp, if allProp then [] else props), rest) := by
  have : isPropReq (encPropReq allProp props) = true := by simp [isPropReq, encPropReq, dav]
  simp only [leadProp, this, if_true, readPropReq_enc]

theorem readQuery_queryNode (q : Query) (h : Expressible q) : readQuery (queryNode q) = some (denotes q) := by
  obtain ⟨allProp, props, ft, pfs, limit⟩ := q
  obtain ⟨hft, hpf⟩ := h
  have hroot : (nsCard == nsC && "addressbook-query" == "addressbook-query" && ([] : List (QName × String)).isEmpty) = true := by
    simp [nsC, nsCard]
  simp only [queryNode, readQuery, el, hroot, Bool.not_true, Bool.false_eq_true, if_false, List.cons_append, List.nil_append,
    leadProp_encPropReq]
  have hfilter := readFilter_enc ft pfs hft hpf
  simp only [el] at hfilter
  by_cases hl : limit > 0
  · obtain ⟨l, hl', hlim⟩ := readLimit_enc limit hl
    simp [hl', readTail, hfilter, hlim, denotes, hl]
  · simp [encLimit, hl, readTail, hfilter, denotes]

theorem readMultiGet_enc (reqPath : String) (escape : String → String) (unescape : String → Option String) (m : MultiGet)
    (hesc : ∀ p ∈ (if m.paths.isEmpty then [reqPath] else m.paths), unescape (escape p) = some p) :
    readMultiGet unescape (encodeMultiGet reqPath escape m) =
      some ⟨m.allProp, if m.allProp then [] else m.props, if m.paths.isEmpty then [reqPath] else m.paths⟩ := by
  have hne : (if m.paths.isEmpty then [reqPath] else m.paths).isEmpty = false := by
    cases h : m.paths <;> rfl
  unfold encodeMultiGet
  generalize (if m.paths.isEmpty then [reqPath] else m.paths) = ps at hesc hne ⊢
  have hhrefs : (ps.map (fun p => dav "href" [.text (escape p)])).mapM (readHref unescape) = some ps :=
    mapM_map_some _ (readHref unescape) ps (fun p hp => by simp [readHref, dav, isText, chardata, hesc p hp])
  have hroot : (nsCard == nsC && "addressbook-multiget" == "addressbook-multiget" && ([] : List (QName × String)).isEmpty) = true := by
    simp [nsC, nsCard]
  simp only [readMultiGet, el, hroot, Bool.not_true, Bool.false_eq_true, if_false, leadProp_encPropReq, hhrefs, bind,
    Option.bind, hne, pure]

end GoWebdav.Lemmas.CarddavRead
