import GoWebdav.Lemmas.CarddavRead
/-!
Helper lemmas for C09, wire → backend: on EVERY document the strict RFC 6352 reader accepts (not only those the
library's client writes) the server's decoder yields the query the reader reads.

Each reader has an inversion lemma (`read*_some`): what it accepts is an element with the expected name whose
attributes and children the next readers accept.  A child list the reader accepts is made of runs of elements with one
name (`Named`), and of such a list every field of the decoder sees exactly its own run.
-/
namespace GoWebdav.Lemmas.CarddavAgree
open GoWebdav GoWebdav.Std.Xml GoWebdav.Impl.CarddavWire GoWebdav.Spec.CarddavWire GoWebdav.Generated
open GoWebdav.Lemmas.CarddavWire GoWebdav.Lemmas.CarddavRead GoWebdav.Lemmas.Xml

theorem decNegate_of_read (attrs : List (QName × String)) (b : Bool) (h : readNegate attrs = some b) : decNegate attrs = .ok b := by
  unfold readNegate at h
  unfold decNegate
  cases ha : attr attrs "negate-condition" <;> rw [ha] at h <;> simp only at h ⊢
  · cases h; rfl
  · -- the reader spells out the generated parser's table
    rw [show carddavNegateParse _ = some b from h]

theorem decEnum_of_read (valid : List String) (attrs : List (QName × String)) (loc v : String)
    (h : readEnum valid attrs loc = some v) : decEnum valid attrs loc = .ok v := by
  unfold readEnum at h
  unfold decEnum
  cases ha : attr attrs loc <;> rw [ha] at h <;> simp only at h ⊢
  · cases h; rfl
  · split at h
    · next hc => cases h; rw [if_pos hc]
    · cases h

theorem readTextMatch_some {n : Node} {t : TextMatch} (h : readTextMatch n = some t) :
    ∃ a cs, n = .elem ⟨nsCard, "text-match"⟩ a cs ∧ readNegate a = some t.negate ∧
      readEnum matchTypes a "match-type" = some t.matchType ∧ t.text = chardata cs := by
  cases n with
  | elem q a cs =>
    simp only [readTextMatch, isC_elem_iff, read_inv] at h
    obtain ⟨⟨⟨rfl, -⟩, -⟩, neg, hneg, mt, hmt, rfl⟩ := h
    exact ⟨a, cs, rfl, hneg, hmt, rfl⟩
  | _ => cases h

theorem decTextMatch_of_read (n : Node) (t : TextMatch) (h : readTextMatch n = some t) : decTextMatch n = .ok t := by
  obtain ⟨a, cs, rfl, hneg, hmt, htext⟩ := readTextMatch_some h
  simp only [decTextMatch, checkNs, Node.space?, if_true, decNegate_of_read a _ hneg, decEnum_of_read _ a _ _ (matchTypes_eq ▸ hmt),
    ← htext, ok_bind, pure_ok]

theorem readParamFilter_some {n : Node} {p : ParamFilter} (h : readParamFilter n = some p) :
    ∃ a cs, n = .elem ⟨nsCard, "param-filter"⟩ a cs ∧ attr a "name" = some p.name ∧
      readParamBody cs = some (p.isNotDefined, p.textMatch) := by
  cases n with
  | elem q a cs =>
    simp only [readParamFilter, isC_elem_iff, read_inv] at h
    obtain ⟨⟨rfl, -⟩, name, hname, b, hb, rfl⟩ := h
    exact ⟨a, cs, rfl, hname, hb⟩
  | _ => cases h

theorem readParamFilter_isC (n : Node) (p : ParamFilter) (h : readParamFilter n = some p) : isC "param-filter" n = true := by
  obtain ⟨a, cs, rfl, -⟩ := readParamFilter_some h
  exact isC_elem_iff.mpr rfl

theorem decParamFilter_of_read (n : Node) (p : ParamFilter) (h : readParamFilter n = some p) : decParamFilter n = .ok p := by
  obtain ⟨a, cs, rfl, hname, hb⟩ := readParamFilter_some h
  obtain ⟨name, i, tm⟩ := p
  revert hb
  fun_cases readParamBody cs with
  | case1 =>
    -- no content
    rintro ⟨⟩
    simp [decParamFilter, checkNs, Node.space?, hname]
  | case2 c he =>
    -- is-not-defined
    rintro ⟨⟩
    cases emptyC_iff.mp he
    simp [decParamFilter, checkNs, Node.space?, hname]
  | case3 c _ =>
    -- a text-match
    rw [Option.map_eq_some_iff]
    rintro ⟨t, ht, ⟨⟩⟩
    obtain ⟨a', cs', rfl, -⟩ := readTextMatch_some ht
    simp [decParamFilter, checkNs, Node.space?, hname, decTextMatch_of_read _ t ht, Except.map]
  | case4 => nofun

theorem named_takeWhile (l : String) (cs : List Node) : Named nsCard l (cs.takeWhile (isC l)) := fun n hn =>
  isC_iff.mp (List.all_eq_true.mp List.all_takeWhile n hn)

theorem readPropBody_some {cs : List Node} {b : Bool × List TextMatch × List ParamFilter} (h : readPropBody cs = some b) :
    (cs = [.elem ⟨nsCard, "is-not-defined"⟩ [] []] ∧ b = (true, [], [])) ∨
    ∃ A B, cs = A ++ B ∧ Named nsCard "text-match" A ∧ Named nsCard "param-filter" B ∧
      ∃ tms pms, A.mapM readTextMatch = some tms ∧ B.mapM readParamFilter = some pms ∧ b = (false, tms, pms) := by
  unfold readPropBody at h
  split at h
  · next h1 => cases h; exact .inl ⟨single_emptyC_iff.mp h1, rfl⟩
  · simp only [List.isEmpty_iff, read_inv] at h
    obtain ⟨hrest, tms, htm, pms, hpm, rfl⟩ := h
    have hB := List.takeWhile_append_dropWhile (p := isC "param-filter") (l := cs.dropWhile (isC "text-match"))
    rw [hrest, List.append_nil] at hB
    refine .inr ⟨_, _, ?_, named_takeWhile _ cs, named_takeWhile _ _, tms, pms, htm, hpm, rfl⟩
    rw [hB, List.takeWhile_append_dropWhile]

theorem readPropFilter_some {n : Node} {p : PropFilter} (h : readPropFilter n = some p) :
    ∃ a cs, n = .elem ⟨nsCard, "prop-filter"⟩ a cs ∧ attr a "name" = some p.name ∧ readEnum tests a "test" = some p.test ∧
      readPropBody cs = some (p.isNotDefined, p.textMatches, p.params) := by
  cases n with
  | elem q a cs =>
    simp only [readPropFilter, isC_elem_iff, read_inv] at h
    obtain ⟨⟨rfl, -⟩, name, hname, test, htest, b, hb, rfl⟩ := h
    exact ⟨a, cs, rfl, hname, htest, hb⟩
  | _ => cases h

theorem decPropFilter_of_read (n : Node) (p : PropFilter) (h : readPropFilter n = some p) : decPropFilter n = .ok p := by
  obtain ⟨a, cs, rfl, hname, htest, hb⟩ := readPropFilter_some h
  obtain ⟨name, test, i, tms, pms⟩ := p
  have htest' := decEnum_of_read _ a _ _ (tests_eq ▸ htest)
  rcases readPropBody_some hb with ⟨rfl, e⟩ | ⟨A, B, rfl, hA, hB, tms', pms', htm, hpm, e⟩ <;> cases e
  · simp [decPropFilter, checkNs, Node.space?, hname, htest']
  · have f1 : (A ++ B).filter (·.localIs "text-match") = A := by simp [hA.filter_localIs, hB.filter_localIs]
    have f2 : (A ++ B).filter (·.localIs "param-filter") = B := by simp [hA.filter_localIs, hB.filter_localIs]
    have f3 : (A ++ B).any (·.localIs "is-not-defined") = false := by
      rw [any_eq_filter]; simp [hA.filter_localIs, hB.filter_localIs]
    simp [decPropFilter, checkNs, Node.space?, hname, htest', f1, f2, f3,
      mapM_agree _ _ A (fun n _ => decTextMatch_of_read n) _ htm, mapM_agree _ _ B (fun n _ => decParamFilter_of_read n) _ hpm]

theorem readFilter_some {f : Node} {x : String × List PropFilter} (h : readFilter f = some x) :
    ∃ a fc, f = .elem ⟨nsCard, "filter"⟩ a fc ∧ readEnum tests a "test" = some x.1 ∧ fc.mapM readPropFilter = some x.2 := by
  cases f with
  | elem q a fc =>
    simp only [readFilter, isC_elem_iff, read_inv] at h
    obtain ⟨⟨rfl, -⟩, test, htest, pfs, hpfs, rfl⟩ := h
    exact ⟨a, fc, rfl, htest, hpfs⟩
  | _ => cases h

theorem filterOf_of_read (cs : List Node) (f : Node) (x : String × List PropFilter)
    (hcs : cs.filter (·.localIs "filter") = [f]) (h : readFilter f = some x) : filterOf cs = .ok x := by
  obtain ⟨a, fc, rfl, htest, hpfs⟩ := readFilter_some h
  have hn : Named nsCard "prop-filter" fc :=
    mapM_all readPropFilter _ (fun n p hp => let ⟨a, c, e, _⟩ := readPropFilter_some hp; ⟨a, c, e⟩) fc _ hpfs
  simp [filterOf, hcs, decEnum_of_read _ a _ _ (tests_eq ▸ htest), hn.filter_localIs,
    mapM_agree _ _ fc (fun n _ => decPropFilter_of_read n) _ hpfs]

theorem readProp_some {n : Node} {name : String} (h : readProp n = some name) :
    ∃ a, n = .elem ⟨nsCard, "prop"⟩ a [] ∧ attr a "name" = some name := by
  unfold readProp at h
  split at h
  · next q a =>
    simp only [isC_elem_iff, read_inv] at h
    obtain ⟨⟨rfl, -⟩, h⟩ := h
    exact ⟨a, rfl, h⟩
  · cases h

theorem decDataChildren_of_read (n : Node) (d : Bool × List String) (h : readAddressData n = some d) :
    ∃ a cs, n = .elem ⟨nsCard, "address-data"⟩ a cs ∧ decDataChildren cs = .ok d := by
  cases n with
  | elem q a cs =>
    simp only [readAddressData, isC_elem_iff, read_inv] at h
    obtain ⟨⟨rfl, -⟩, h⟩ := h
    refine ⟨a, cs, rfl, ?_⟩
    split at h
    · next h1 =>
      cases h
      cases single_emptyC_iff.mp h1
      simp [decDataChildren]
    · obtain ⟨ps, hps, rfl⟩ := Option.map_eq_some_iff.mp h
      have hn : Named nsCard "prop" cs :=
        mapM_all readProp _ (fun n x hx => let ⟨a, e, _⟩ := readProp_some hx; ⟨a, [], e⟩) cs ps hps
      have hnames : cs.map propNameOf = ps := mapM_some_map readProp propNameOf cs (fun n _ x hx => by
        obtain ⟨a, rfl, ha⟩ := readProp_some hx; simp [propNameOf, ha]) ps hps
      have hns : ∀ n ∈ cs, n.space? = some nsCard := fun n hn' => by obtain ⟨a, c, rfl⟩ := hn n hn'; rfl
      simpa [decDataChildren, any_eq_filter, hn.filter_localIs, hnames] using hns
  | _ => cases h

theorem decDataReq_of_read (pc : List Node) (d : Bool × List String)
    (h : dataOf (pc.filter (isC "address-data")) = some d) : decDataReq pc = .ok d := by
  unfold decDataReq
  -- the decoder's `find?` spelled as the reader's `filter … head?`, so that the case split below abstracts both
  rw [← List.head?_filter, ← isC_eq_isElem]
  revert h
  fun_cases dataOf (pc.filter (isC "address-data")) with
  | case1 => rintro ⟨⟩; rfl
  | case2 x =>
    intro h
    obtain ⟨a, cs, rfl, hd⟩ := decDataChildren_of_read x d h
    exact hd
  | case3 => nofun

theorem isPropReq_some {c : Node} (h : isPropReq c = true) :
    ∃ l a pc, c = .elem ⟨nsDav, l⟩ a pc ∧ (l = "prop" ∨ l = "allprop" ∨ l = "propname") := by
  simp only [isPropReq, Bool.or_eq_true] at h
  rcases h with (h | h) | h <;> obtain ⟨a, pc, rfl⟩ := isD_iff.mp h
  · exact ⟨_, a, pc, rfl, .inl rfl⟩
  · exact ⟨_, a, pc, rfl, .inr (.inl rfl)⟩
  · exact ⟨_, a, pc, rfl, .inr (.inr rfl)⟩

theorem filter_leadProp (p : Node → Bool) (hp : ∀ c, isPropReq c = true → p c = false) (cs : List Node) :
    cs.filter p = (leadProp cs).2.filter p := by
  fun_cases leadProp cs with
  | case1 c rest h => simp [hp c h]   -- a property request in front: `p` does not select it
  | _ => rfl

/-- the decoder's "last DAV:prop child" is the reader's leading property request, when nothing after it is a DAV:prop -/
theorem dataReqOf_leadProp (cs : List Node) (d : Bool × List String) (h : (leadProp cs).1 = some d)
    (hrest : (leadProp cs).2.filter (·.isElem nsDav "prop") = []) : dataReqOf cs = .ok d := by
  revert h hrest
  fun_cases leadProp cs with
  | case1 c rest hp =>
    intro h hrest
    obtain ⟨l, a, pc, rfl, rfl | rfl | rfl⟩ := isPropReq_some hp
    · obtain ⟨-, hd⟩ : _ ∧ dataOf (pc.filter (isC "address-data")) = some d := by simpa [readPropReq] using h
      simp [dataReqOf, hrest, decDataReq_of_read pc d hd]
    · obtain ⟨-, rfl⟩ : _ ∧ (false, []) = d := by simpa [readPropReq] using h
      simp [dataReqOf, hrest]
    · obtain ⟨-, rfl⟩ : _ ∧ (false, []) = d := by simpa [readPropReq] using h
      simp [dataReqOf, hrest]
  | case2 c rest _ =>
    -- no property request in front
    rintro ⟨⟩ hrest
    simp [dataReqOf, hrest]
  | case3 => rintro ⟨⟩ -; rfl   -- no children

theorem readLimit_some {l : Node} {k : Int} (h : readLimit l = some k) :
    ∃ tc v, l = .elem ⟨nsCard, "limit"⟩ [] [.elem ⟨nsCard, "nresults"⟩ [] tc] ∧
      Std.Decimal.readDigits 0 (chardata tc).toList = some v ∧ (chardata tc).toList.isEmpty = false ∧ v ≠ 0 ∧ k = v := by
  unfold readLimit at h
  split at h
  · next q c =>
    simp only [isC_elem_iff, read_inv] at h
    obtain ⟨rfl, h⟩ := h
    unfold readNResults at h
    split at h
    · next q' tc =>
      simp only [isC_elem_iff, read_inv] at h
      obtain ⟨⟨rfl, -⟩, hne, h⟩ := h
      split at h
      · next v hd =>
        simp only [read_inv] at h
        exact ⟨tc, v, rfl, hd, hne, h.1, h.2.symm⟩
      · cases h
    · cases h
  · cases h

theorem decLimit_filter (cs : List Node) : decLimit cs = decLimit (cs.filter (·.localIs "limit")) := by
  simp only [decLimit, List.filter_filter, Bool.and_self]

theorem decLimit_of_read (cs : List Node) (l : Node) (k : Int) (hcs : cs.filter (·.localIs "limit") = [l])
    (h : readLimit l = some k) (hk : k < 9223372036854775808) : ∃ v : Nat, v ≠ 0 ∧ k = v ∧ decLimit cs = .ok (some v) := by
  obtain ⟨tc, v, rfl, hd, hne, hv, rfl⟩ := readLimit_some h
  exact ⟨v, hv, rfl, by rw [decLimit_filter, hcs]; exact Props.C09.decLimit_nresults [] [] tc v hd hne (by omega)⟩

theorem isPropReq_localIs (loc : String) (h : loc ≠ "prop" ∧ loc ≠ "allprop" ∧ loc ≠ "propname") (c : Node)
    (hc : isPropReq c = true) : c.localIs loc = false := by
  obtain ⟨l, a, pc, rfl, rfl | rfl | rfl⟩ := isPropReq_some hc <;> simp [Ne.symm, h]

/-- limits below 2^63: every limit a Go `int` can hold -/
theorem decodeQuery_of_read (n : Node) (q : Query) (h : readQuery n = some q) (hk : q.limit < 9223372036854775808) :
    decodeQuery n = .ok (some q) := by
  cases n with
  | elem name attrs cs =>
    simp only [readQuery, read_inv] at h
    obtain ⟨⟨⟨hs, hl⟩, -⟩, d, hd, t, ht, rfl⟩ := h
    have hroot : (name.space == nsCard && name.loc == "addressbook-query") = true := by simp [hs, hl, nsC, nsCard]
    have hF := filter_leadProp (·.localIs "filter") (isPropReq_localIs _ (by simp)) cs
    have hL := filter_leadProp (·.localIs "limit") (isPropReq_localIs _ (by simp)) cs
    -- after the property request: the filter, then at most one limit
    unfold readTail at ht
    split at ht
    · next f heq =>
      obtain ⟨x, hx, rfl⟩ := Option.map_eq_some_iff.mp ht
      obtain ⟨a, fc, rfl, -⟩ := readFilter_some hx
      rw [heq] at hF hL
      have h1 := dataReqOf_leadProp cs d hd (by simp [heq, nsCard, nsDav])
      have h2 := filterOf_of_read cs _ x (by simpa using hF) hx
      have h3 : decLimit cs = .ok none := by rw [decLimit_filter, hL]; simp [decLimit]
      -- a `do` block nested in a `match`: `ok_bind` does not reach inside, and unfolding `bind` evaluates it at once
      simp [decodeQuery, hroot, h1, h2, h3, bind, Except.bind, pure, Except.pure]
    · next f l heq =>
      simp only [read_inv] at ht
      obtain ⟨x, hx, k, hlim, rfl⟩ := ht
      obtain ⟨a, fc, rfl, -⟩ := readFilter_some hx
      obtain ⟨tc, v', rfl, -⟩ := readLimit_some hlim
      rw [heq] at hF hL
      have h1 := dataReqOf_leadProp cs d hd (by simp [heq, nsCard, nsDav])
      have h2 := filterOf_of_read cs _ x (by simpa using hF) hx
      obtain ⟨v, hv, rfl, h3⟩ := decLimit_of_read cs _ k (by simpa using hL) hlim hk
      -- `decodeQuery` matches on `some 0` first: show the limit as a successor so that the match reduces
      obtain ⟨v, rfl⟩ := Nat.exists_eq_succ_of_ne_zero hv
      simp [decodeQuery, hroot, h1, h2, h3, bind, Except.bind, pure, Except.pure]
    · cases ht
  | _ => cases h

theorem readHref_some {unescape : String → Option String} {n : Node} {p : String} (h : readHref unescape n = some p) :
    ∃ cs, n = .elem ⟨nsDav, "href"⟩ [] cs ∧ unescape (chardata cs) = some p := by
  unfold readHref at h
  split at h
  · next q cs =>
    simp only [isD_elem_iff, read_inv] at h
    obtain ⟨⟨rfl, -⟩, h⟩ := h
    exact ⟨cs, rfl, h⟩
  · cases h

theorem decodeMultiGet_of_read (unescape : String → Option String) (n : Node) (m : MultiGet)
    (h : readMultiGet unescape n = some m) : decodeMultiGet unescape n = .ok m := by
  cases n with
  | elem name attrs cs =>
    simp only [readMultiGet, read_inv] at h
    obtain ⟨⟨⟨hs, hl⟩, -⟩, d, hd, hrefs, hh, h⟩ := h
    obtain ⟨-, rfl⟩ := h
    have hroot : (name.space == nsCard && name.loc == "addressbook-multiget") = true := by simp [hs, hl, nsC, nsCard]
    have hn : Named nsDav "href" (leadProp cs).2 :=
      mapM_all (readHref unescape) _ (fun n p hp => let ⟨c, e, _⟩ := readHref_some hp; ⟨[], c, e⟩) _ _ hh
    have hH : cs.filter (·.isElem nsDav "href") = (leadProp cs).2 := by
      rw [filter_leadProp _ (fun c hc => by obtain ⟨l, a, pc, rfl, rfl | rfl | rfl⟩ := isPropReq_some hc <;> rfl) cs,
        hn.filter_isElem, if_pos ⟨rfl, rfl⟩]
    have h1 := dataReqOf_leadProp cs d hd (by rw [hn.filter_isElem, if_neg (by simp)])
    have h2 : (leadProp cs).2.mapM (decHref unescape) = .ok hrefs :=
      mapM_agree _ _ _ (fun n _ p hp => by obtain ⟨c, rfl, hu⟩ := readHref_some hp; simp [decHref, hu]) _ hh
    simp [decodeMultiGet, hroot, h1, hH, h2]
  | _ => cases h

end GoWebdav.Lemmas.CarddavAgree
