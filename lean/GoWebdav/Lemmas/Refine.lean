import GoWebdav.Props.C02
import GoWebdav.Props.C04
/-!
The refinement of C01.  The specification method by method, for a path that maps to `p`: its row of the refusal table in
the words of the handler's own tests (`refusals_*`) and what it accepts once no refusal condition holds (`carried_*`).
Then the handlers exit by exit (`fun_cases`: the exits in the order the Go code makes its checks, each with what has been
found by then): an exit that refuses answers a code of the row (`refused`); at the exit that succeeds the row is empty
and `carried_*` applies.  PROPFIND is walked by hand, its two successful exits being compared with the specification as one.
-/
namespace GoWebdav.Lemmas.Refine
open GoWebdav GoWebdav.Std.Path GoWebdav.Std.Posix GoWebdav.Impl.Path GoWebdav.Impl.Webdav GoWebdav.Spec.Rfc4918 GoWebdav.Lemmas.Webdav

/-- the conditional headers as the handler checks them are the specification's table (C04) -/
theorem cond_link (ex : Bool) (im inm : CondView) :
    condRefusal ex im inm = match checkCond ex im inm with
      | .proceed => [] | .badRequest => [400] | .preconditionFailed => [412] := by
  unfold condRefusal checkCond
  have hwf : Props.C04.WFState (if ex = true then some [99] else none) := by
    intro e he
    cases ex <;> simp at he
    subst he
    simp
  rw [Props.C04.C04_check_eq_spec asciiUtf8 _ hwf]
  cases Spec.Cond.verdict asciiUtf8 (if ex = true then some [99] else none) (condChars im) (condChars inm) <;> rfl

theorem kind_absent_iff (t : FS) (p : FPath) : kind t p = .absent ↔ lookup t p = none := by
  unfold kind; split <;> simp [*]
theorem kind_coll_iff (t : FS) (p : FPath) : kind t p = .coll ↔ lookup t p = some .dir := by
  unfold kind; split <;> simp [*]
theorem kind_file_iff (t : FS) (p : FPath) : kind t p = .file ↔ ∃ c, lookup t p = some (.file c) := by
  unfold kind; split <;> simp [*]
theorem isSome_kind (t : FS) (p : FPath) : (lookup t p).isSome = decide (kind t p ≠ .absent) := by
  unfold kind; split <;> simp [*]

/-- a PUT whose body reader fails, addressed to an existing file (covers the open finding's region; the same as `Props.C02.FaultRegion`) -/
def FaultRegion (t : FS) (r : Request) : Prop :=
  r.method = "PUT" ∧ r.fault.isSome = true ∧ ∃ p c, localPath [] r.path = .ok p ∧ lookup t p = some (.file c)

theorem refused {t : FS} {r : Request} {c : Nat} {m : Msg} (h : c ∈ refusals t r) : allows t r (t, err c m) := by
  unfold allows; rw [if_pos (List.ne_nil_of_mem h)]; exact ⟨h, same_refl t⟩

theorem carried {t : FS} {r : Request} {out : FS × Response} (hr : refusals t r = []) (hf : faulted r = false)
    (ht : out.1 = effect t r) (hs : out.2.status ∈ successCodes t r) (he : entityOK t r out.2) : allows t r out := by
  unfold allows
  rw [hr, if_neg (fun h => h rfl), hf, if_neg Bool.false_ne_true]
  exact ⟨ht ▸ same_refl _, hs, he⟩

section spec
variable {t : FS} {r : Request} {p : FPath}

theorem unmapped {e : LPErr} (h : localPath [] r.path = .error e) : 400 ∈ refusals t r := by
  unfold refusals; simp [target_of_error h]

theorem refusals_headGet (hm : r.method = "GET" ∨ r.method = "HEAD") (hp : localPath [] r.path = .ok p) :
    refusals t r = (if lookup t p = none then [404] else []) ++ (if lookup t p = some .dir then [405] else []) := by
  unfold refusals
  rcases hm with h | h <;>
    simp +decide only [target_of_ok hp, h, if_true, if_false, or_true, true_or, kind_absent_iff, kind_coll_iff]

theorem refusals_put (hm : r.method = "PUT") (hp : localPath [] r.path = .ok p) :
    refusals t r = (if lookup t p = some .dir then [405] else []) ++ (if !parentOK t p then [409] else []) ++
      match checkCond (lookup t p).isSome r.ifMatch r.ifNoneMatch with
      | .proceed => [] | .badRequest => [400] | .preconditionFailed => [412] := by
  unfold refusals
  simp +decide only [target_of_ok hp, hm, if_true, if_false, kind_coll_iff, cond_link, ← isSome_kind]

theorem refusals_delete (hm : r.method = "DELETE") (hp : localPath [] r.path = .ok p) :
    refusals t r = if lookup t p = none then [404] else
      match checkCond true r.ifMatch r.ifNoneMatch with
      | .proceed => [] | .badRequest => [400] | .preconditionFailed => [412] := by
  unfold refusals
  simp +decide only [target_of_ok hp, hm, if_true, if_false, Ne, kind_absent_iff, cond_link]
  split <;> simp

theorem refusals_mkcol (hm : r.method = "MKCOL") (hp : localPath [] r.path = .ok p) :
    refusals t r = (if r.ctypeSet then [415] else []) ++ (if (lookup t p).isSome then [405] else []) ++
      (if !parentOK t p then [409] else []) := by
  unfold refusals; simp +decide only [target_of_ok hp, hm, if_true, if_false, isSome_kind, decide_eq_true_eq]

theorem refusals_propfind (hm : r.method = "PROPFIND") (hp : localPath [] r.path = .ok p) :
    refusals t r = (if !validDepth r.depth then [400] else []) ++
      (if bodyForm r = none ∨ bodyForm r = some .noform then [400] else []) ++ (if lookup t p = none then [404] else []) := by
  unfold refusals; simp +decide only [target_of_ok hp, hm, if_true, if_false, kind_absent_iff]

/-- (on `target`, not `localPath` like its siblings: `C01.overwrite_honoured` uses it with the specification's own words) -/
theorem refusals_copyMove (hm : r.method = "COPY" ∨ r.method = "MOVE") (ht : target r.path = some p) :
    refusals t r =
      (if destTarget r = none then [400] else []) ++
      (if !validOverwrite r.overwrite then [400] else []) ++
      (if !validDepth r.depth then [400] else []) ++
      (if r.method = "COPY" ∧ r.depth = "1" then [400] else []) ++
      (if r.method = "MOVE" ∧ (r.depth = "0" ∨ r.depth = "1") then [400] else []) ++
      (if kind t p = .absent then [404] else []) ++
      (match destTarget r with
       | none => []
       | some d =>
         (if p = d then [403] else []) ++
         (if p ≠ d ∧ (p.isPrefixOf d ∨ d.isPrefixOf p) then [403, 409] else []) ++
         (if !parentOK t d then [409] else []) ++
         (if kind t d ≠ .absent ∧ r.overwrite = "F" then [412] else [])) := by
  unfold refusals
  -- the `match` in `refusals` and the one above are different constants with the same unfolding: `rfl` sees through them
  rcases hm with h | h
  · simp +decide only [ht, h, if_true, if_false, true_or]; rfl
  · simp +decide only [ht, h, if_true, if_false, or_true]; rfl

/- What stays a hypothesis of `carried_*` in the specification's own terms (`entityOK` for OPTIONS and PROPFIND, the tree
   for COPY / MOVE) is compared by the handler's proof. -/

theorem carried_options (hm : r.method = "OPTIONS") (hp : localPath [] r.path = .ok p) {resp : Response}
    (hs : resp.status = 204) (he : entityOK t r resp) : allows t r (t, resp) := by
  refine carried ?_ ?_ ?_ ?_ he <;> simp +decide [refusals, faulted, effect, successCodes, target_of_ok hp, hm, hs]

theorem carried_headGet (hm : r.method = "GET" ∨ r.method = "HEAD") (hp : localPath [] r.path = .ok p) {c : Bytes}
    (hl : lookup t p = some (.file c)) {resp : Response} (hs : resp.status = 200) (hlen : resp.contentLength = some c.length)
    (htag : resp.tagged = true) (hb : resp.body = if r.method = "HEAD" then none else some c) : allows t r (t, resp) := by
  have hr : refusals t r = [] := by rw [refusals_headGet hm hp]; simp [hl]
  rcases hm with h | h
  · refine carried hr ?_ ?_ ?_ ?_ <;> simp +decide [faulted, effect, successCodes, entityOK, target_of_ok hp, h, hl, hs, hlen, htag, hb]
  · refine carried hr ?_ ?_ ?_ ?_ <;> simp +decide [faulted, effect, successCodes, entityOK, target_of_ok hp, h, hl, hs, hlen, htag, hb]

theorem carried_put (hm : r.method = "PUT") (hp : localPath [] r.path = .ok p) (hr : refusals t r = []) (hf : r.fault = none)
    {resp : Response} (hs : resp.status = if kind t p = .absent then 201 else 204) (htag : resp.tagged = true) :
    allows t r (set t p (.file r.body), resp) := by
  refine carried hr ?_ ?_ ?_ ?_ <;> simp +decide [faulted, effect, successCodes, entityOK, target_of_ok hp, hm, hf, hs, htag]
  -- left: the status is one of the success codes, which depend on whether the target existed
  split <;> simp

theorem carried_delete (hm : r.method = "DELETE") (hp : localPath [] r.path = .ok p) (hr : refusals t r = []) {resp : Response}
    (hs : resp.status = 204) : allows t r (removeAll t p, resp) := by
  refine carried hr ?_ ?_ ?_ ?_ <;> simp +decide [faulted, effect, successCodes, entityOK, target_of_ok hp, hm, hs]

theorem carried_mkcol (hm : r.method = "MKCOL") (hp : localPath [] r.path = .ok p) (hr : refusals t r = []) {resp : Response}
    (hs : resp.status = 201) : allows t r (set t p .dir, resp) := by
  refine carried hr ?_ ?_ ?_ ?_ <;> simp +decide [faulted, effect, successCodes, entityOK, target_of_ok hp, hm, hs]

theorem carried_propfind (hm : r.method = "PROPFIND") (hp : localPath [] r.path = .ok p) (hr : refusals t r = []) {resp : Response}
    (hs : resp.status = 207) (he : entityOK t r resp) : allows t r (t, resp) := by
  refine carried hr ?_ ?_ ?_ he <;> simp +decide [faulted, effect, successCodes, target_of_ok hp, hm, hs]

theorem carried_copyMove (hm : r.method = "COPY" ∨ r.method = "MOVE") (hp : localPath [] r.path = .ok p) {d : FPath}
    (hd : destTarget r = some d) (hr : refusals t r = []) {out : FS × Response}
    (htree : out.1 =
      (let t1 := if kind t d ≠ .absent then removeAll t d else t
       if r.method = "MOVE" then removeAll (graft t1 p d) p
       else if r.depth = "0" ∧ kind t p = .coll then set t1 d .dir
       else graft t1 p d))
    (hs : out.2.status ∈ if kind t d = .absent then [201] else [204]) : allows t r out := by
  rcases hm with h | h
  · refine carried hr ?_ ?_ ?_ ?_ <;> simp +decide [faulted, effect, successCodes, entityOK, target_of_ok hp, hd, h, htree, hs]
  · refine carried hr ?_ ?_ ?_ ?_ <;> simp +decide [faulted, effect, successCodes, entityOK, target_of_ok hp, hd, h, htree, hs]

/-- The header and body defects are answered before the path is looked at, so they have to be reasons for their code
    whether or not the path maps: this lemma and the two after it. -/
theorem copyMove_malformed (t : FS) (r : Request) (hm : r.method = "COPY" ∨ r.method = "MOVE")
    (h : destTarget r = none ∨ validOverwrite r.overwrite = false ∨ validDepth r.depth = false ∨
      r.method = "COPY" ∧ r.depth = "1" ∨ r.method ≠ "COPY" ∧ (r.depth = "0" ∨ r.depth = "1")) : 400 ∈ refusals t r := by
  cases hp : localPath [] r.path with
  | error _ => exact unmapped hp
  | ok p =>
    rw [refusals_copyMove hm (target_of_ok hp)]
    refine List.mem_append_left _ (List.mem_append_left _ ?_)
    rcases h with h | h | h | h | ⟨hc, h⟩
    · simp [h]
    · simp [h]
    · simp [h]
    · simp [h]
    · simp [hm.resolve_left hc, h]

theorem propfind_malformed (t : FS) (r : Request) (hm : r.method = "PROPFIND")
    (h : validDepth r.depth = false ∨ bodyForm r = none ∨ bodyForm r = some .noform) : 400 ∈ refusals t r := by
  cases hp : localPath [] r.path with
  | error _ => exact unmapped hp
  | ok p =>
    rw [refusals_propfind hm hp]
    rcases h with h | h | h <;> simp [h]

theorem mkcol_with_body (t : FS) (r : Request) (hm : r.method = "MKCOL") (h : r.ctypeSet = true) : 415 ∈ refusals t r := by
  cases hp : localPath [] r.path with
  | error _ => unfold refusals; simp [target_of_error hp, hm, h]
  | ok p => rw [refusals_mkcol hm hp]; simp [h]

theorem refusals_transfer (hm : r.method = "COPY" ∨ r.method = "MOVE") {dn : Bytes} (hdst : r.dest = .path dn)
    (hvo : validOverwrite r.overwrite = true) (hvd : validDepth r.depth = true)
    (hc : ¬ (r.method = "COPY" ∧ r.depth = "1")) (hmv : ¬ (r.method ≠ "COPY" ∧ (r.depth = "0" ∨ r.depth = "1")))
    (hp : localPath [] r.path = .ok p) {d : FPath} (hd : localPath [] dn = .ok d) :
    refusals t r = (if lookup t p = none then [404] else []) ++ ((if p = d then [403] else []) ++
      (if p ≠ d ∧ (p.isPrefixOf d ∨ d.isPrefixOf p) then [403, 409] else []) ++
      (if !parentOK t d then [409] else []) ++ (if (lookup t d).isSome ∧ r.overwrite = "F" then [412] else [])) := by
  have hdt : destTarget r = some d := by simp [destTarget, hdst, target_of_ok hd]
  have hmv' : ¬ (r.method = "MOVE" ∧ (r.depth = "0" ∨ r.depth = "1")) := fun h => hmv ⟨by rw [h.1]; decide, h.2⟩
  rw [refusals_copyMove hm (target_of_ok hp)]
  simp only [hdt, hvo, hvd, hc, hmv', Bool.not_true, Bool.false_eq_true, if_false, List.nil_append, reduceCtorEq,
    kind_absent_iff, isSome_kind, decide_eq_true_eq]
end spec

theorem allows_options (t : FS) (r : Request) (hm : r.method = "OPTIONS") : allows t r (options t r) := by
  unfold options
  -- the Allow list names the methods the specification asks for, by the kind of the target
  fun_cases optionsResp t r with
  | case1 e hp => exact refused (unmapped hp)
  | case2 p hp hl => exact carried_options hm hp rfl (by unfold entityOK; simp [target_of_ok hp, hm, kind, hl])
  | case3 p hp e hl base =>
    exact carried_options hm hp rfl (by unfold entityOK; cases e <;> simp [target_of_ok hp, hm, kind, hl, isDir, base])

theorem allows_headGet (t : FS) (r : Request) (hm : r.method = "GET" ∨ r.method = "HEAD") : allows t r (headGet t r) := by
  unfold headGet
  fun_cases headGetResp t r with
  | case1 e hp => exact refused (unmapped hp)
  | case2 p hp hl => exact refused (by simp [refusals_headGet hm hp, hl])
  | case3 p hp hl => exact refused (by simp [refusals_headGet hm hp, hl])
  | case4 p hp c hl => exact carried_headGet hm hp hl rfl rfl rfl rfl

theorem allows_delete (t : FS) (r : Request) (hm : r.method = "DELETE") : allows t r (delete t r) := by
  fun_cases delete t r with
  | case1 e hp => exact refused (unmapped hp)
  | case2 p hp hl => exact refused (by simp [refusals_delete hm hp, hl])
  | case3 p hp e hl hc => exact refused (by simp [refusals_delete hm hp, hl, hc])
  | case4 p hp e hl hc => exact refused (by simp [refusals_delete hm hp, hl, hc])
  | case5 p hp e hl hc => exact carried_delete hm hp (by simp [refusals_delete hm hp, hl, hc]) rfl

theorem allows_mkcol (t : FS) (r : Request) (hm : r.method = "MKCOL") : allows t r (mkcol t r) := by
  fun_cases mkcol t r with
  | case1 hct => exact refused (mkcol_with_body t r hm hct)
  | case2 _ e hp => exact refused (unmapped hp)
  | case3 _ p hp hl => exact refused (by simp [refusals_mkcol hm hp, hl])
  | case4 _ p hp _ hpar => exact refused (by simp [refusals_mkcol hm hp, hpar])
  | case5 hct p hp hl hpar => exact carried_mkcol hm hp (by simp [refusals_mkcol hm hp, hct, hl, hpar]) rfl

theorem allows_proppatch (t : FS) (r : Request) (hm : r.method = "PROPPATCH") : allows t r (proppatch t r) := by
  have h400 : 400 ∈ refusals t r := by unfold refusals; cases target r.path <;> simp +decide [hm]
  have h403 : 403 ∈ refusals t r := by unfold refusals; cases target r.path <;> simp +decide [hm]
  unfold proppatch
  fun_cases proppatchResp t r with
  | case3 => exact refused h403
  | _ => exact refused h400

theorem allows_other (t : FS) (r : Request)
    (h : r.method ∉ ["OPTIONS", "GET", "HEAD", "PUT", "DELETE", "PROPFIND", "PROPPATCH", "MKCOL", "COPY", "MOVE"]) :
    allows t r (t, err 405 (.text "unsupported method")) := by
  simp only [List.mem_cons, List.not_mem_nil, or_false, not_or] at h
  refine refused ?_
  unfold refusals; cases target r.path <;> simp [h]

theorem allows_put (t : FS) (hwf : WF t) (r : Request) (hm : r.method = "PUT") (hnr : ¬ FaultRegion t r) :
    allows t r (put t r) := by
  -- `fi` is the handler's name for `lookup t p`: `rw` sees through it where `simp` would not
  fun_cases put t r with
  | case1 e hp => exact refused (unmapped hp)
  | case2 p hp fi hdir => exact refused (by rw [refusals_put hm hp, if_pos hdir]; simp)
  | case3 p hp fi _ hc => exact refused (by rw [refusals_put hm hp, hc]; simp)
  | case4 p hp fi _ hc => exact refused (by rw [refusals_put hm hp, hc]; simp)
  | case5 p hp fi _ _ hpar => exact refused (by rw [refusals_put hm hp, if_pos hpar]; simp)
  | case6 p hp fi hdir hc hpar hf =>
    -- the body broke off: nothing is lost because the target was not an existing file (C02)
    have hf := readBody_error hf
    unfold allows
    rw [refusals_put hm hp, if_neg hdir, if_neg hpar, hc, if_neg (fun h => h rfl), if_pos (by simp [faulted, hm, hf])]
    have h500 : 500 ≥ 400 := by decide
    exact ⟨h500, Props.C02.outcome_failed hwf hnr (.putFault p _ hm hf hp hdir) h500⟩
  | case7 p hp fi hdir hc hpar c hf =>
    obtain ⟨hnf, rfl⟩ := readBody_ok hf
    exact carried_put hm hp (by rw [refusals_put hm hp, if_neg hdir, if_neg hpar, hc]; rfl) hnf (by simp [fi, isSome_kind]) rfl

theorem allows_propfind (t : FS) (r : Request) (hm : r.method = "PROPFIND") : allows t r (propfind t r) := by
  unfold propfind propfindResp
  rw [depth_link]
  cases hb : bodyForm r with
  | none => exact refused (propfind_malformed t r hm (.inr (.inl hb)))
  | some form =>
    dsimp only
    cases hvd : validDepth r.depth with
    | false => exact refused (propfind_malformed t r hm (.inl hvd))
    | true =>
      simp only [if_true]
      cases hp : localPath [] r.path with
      | error _ => exact refused (unmapped hp)
      | ok p =>
        have hr := refusals_propfind (t := t) hm hp
        rw [hvd, hb] at hr
        dsimp only
        cases hl : lookup t p with
        | none => exact refused (by rw [hr]; simp [hl])
        | some e =>
          dsimp only
          by_cases hnf : form = .noform
          · rw [if_pos hnf]; exact refused (propfind_malformed t r hm (.inr (.inr (hnf ▸ hb))))
          rw [if_neg hnf]
          -- the status: a listing and a single resource both answer 207
          refine carried_propfind hm hp (by rw [hr]; simp [hnf, hl]) (by rw [apply_ite Response.status, ite_self]) ?_
          -- the members listed are the specification's scope, Depth value by Depth value
          unfold entityOK scope hrefOf
          simp +decide only [target_of_ok hp, hm, if_false, if_true, hl, hb]
          by_cases h0 : r.depth = "0"
          · simp [h0]
          · by_cases h1 : r.depth = "1"
            · cases isDir e <;> simp +decide [h1]
            · cases isDir e <;> simp [h0, h1]

/-- `LocalFileSystem.Copy` / `Move`, once `handleCopyMove` has accepted the headers -/
theorem allows_transfer (t : FS) (hwf : WF t) (r : Request) (hm : r.method = "COPY" ∨ r.method = "MOVE") (dn : Bytes)
    (hdst : r.dest = .path dn) (hvo : validOverwrite r.overwrite = true) (hvd : validDepth r.depth = true)
    (hc : ¬ (r.method = "COPY" ∧ r.depth = "1")) (hmv : ¬ (r.method ≠ "COPY" ∧ (r.depth = "0" ∨ r.depth = "1"))) :
    allows t r (copyMove t (decide (r.method ≠ "COPY")) r.path dn (decide (¬ (r.method = "COPY" ∧ r.depth = "0")))
      (decide (r.overwrite ≠ "F"))) := by
  have row {p d} hp hd := refusals_transfer (t := t) (p := p) (d := d) hm hdst hvo hvd hc hmv hp hd
  fun_cases copyMove with   -- the application in the goal (its arguments are the `decide …` terms above)
  | case1 e hp => exact refused (unmapped hp)
  | case2 _ _ e hd => exact refused (copyMove_malformed t r hm (.inl (by simp [destTarget, hdst, target_of_error hd])))
  | case3 p hp d hd hl => exact refused (by simp [row hp hd, hl])
  | case4 p hp d hd _ _ hov =>
    refine refused (c := 403) ?_
    rw [row hp hd]
    by_cases h : p = d
    · simp [h]
    · simpa [h, overlap] using hov
  | case5 p hp d hd _ _ _ _ hpre =>
    have hpre : (lookup t d).isSome ∧ r.overwrite = "F" := by simpa using hpre
    exact refused (by simp [row hp hd, hpre])
  | case6 p hp d hd _ _ _ dstExists _ t1 hpar =>
    have hpar : parentOK t d = false := by simpa [t1, parentOK_freed] using hpar
    -- no parent for the destination, so (the tree being well formed) no destination that would have been removed
    have ht1 : t1 = t := if_neg (by simp [dstExists, absent_of_no_parent t hwf d hpar])
    rw [ht1]
    exact refused (by simp [row hp hd, hpar])
  | case7 p hp d hd e hl hov dstExists hpre t1 hpar t2 =>
    obtain ⟨hpd, hdp⟩ := overlap_false p d (by simpa using hov)
    have hne : p ≠ d := ne_of_not_prefix hpd
    have hpar : parentOK t d = true := by simpa [t1, parentOK_freed] using hpar
    have hpre : ¬ ((lookup t d).isSome ∧ r.overwrite = "F") := by simpa using hpre
    refine carried_copyMove hm hp (d := d) (by simp [destTarget, hdst, target_of_ok hd])
      (by simp [row hp hd, hl, hne, hpd, hdp, hpar, hpre]) ?_ ?_
    · -- whatever is not COPY is MOVE; a COPY is deep unless it is Depth 0 of a collection
      simp only [t2, t1, dstExists, isSome_kind, decide_eq_true_eq]
      by_cases hmove : r.method = "MOVE"
      · simp [hmove]
      · have hcopy : r.method = "COPY" := hm.resolve_right hmove
        cases e with
        | dir => by_cases h0 : r.depth = "0" <;> simp [hcopy, h0, isDir, kind, hl]
        | file c => simp [hcopy, isDir, kind, hl]
    · simp only [dstExists, isSome_kind]
      by_cases hkd : kind t d = .absent <;> simp [hkd]

theorem allows_copyMove (t : FS) (hwf : WF t) (r : Request) (hm : r.method = "COPY" ∨ r.method = "MOVE") :
    allows t r (copyMoveHandler t r) := by
  rcases copyMoveHandler_cases r with ⟨_, hbad, h⟩ | ⟨dn, hdst, hvo, hvd, hc, hmv, h⟩ <;> rw [h]
  · exact refused (copyMove_malformed t r hm hbad)
  · exact allows_transfer t hwf r hm dn hdst hvo hvd hc hmv

end GoWebdav.Lemmas.Refine
