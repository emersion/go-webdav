import GoWebdav.Impl.CarddavWire
import GoWebdav.Lemmas.Xml
/-!
The CardDAV query decoder does not see insignificant content: comments, and white space between the elements of an
element-content model, anywhere in an addressbook-query document (`decodeQuery (clean n) = decodeQuery n` for EVERY
tree `n`).  The character data of text-match, nresults and href is left alone — there white space is data.
-/
namespace GoWebdav.Lemmas.CarddavNoise
open GoWebdav GoWebdav.Std.Xml GoWebdav.Impl.CarddavWire GoWebdav.Spec.XmlNoise GoWebdav.Lemmas.Xml

/-- the elements whose content is character data -/
def pc (loc : String) : Bool := loc = "text-match" || loc = "nresults" || loc = "href"

theorem decParamFilter_clean (n : Node) : decParamFilter (clean pc n) = decParamFilter n :=
  clean_congr pc _ (fun q a cs _ => by
    simp only [decParamFilter, checkNs, Node.space?, any_cleanList pc _ (byName_localIs "is-not-defined"),
      filter_localIs_cleanList_pcdata pc "text-match" rfl]
    rfl) n

theorem decPropFilter_clean (n : Node) : decPropFilter (clean pc n) = decPropFilter n :=
  clean_congr pc _ (fun q a cs _ => by
    simp only [decPropFilter, checkNs, Node.space?, any_cleanList pc _ (byName_localIs "is-not-defined"),
      filter_localIs_cleanList_pcdata pc "text-match" rfl, filter_localIs_cleanList,
      mapM_map_clean pc decParamFilter _ (fun x _ => decParamFilter_clean x)]
    rfl) n

theorem decDataChildren_clean (cs : List Node) : decDataChildren (cleanList pc cs) = decDataChildren cs := by
  have e1 : propNameOf ∘ clean pc = propNameOf := funext (clean_congr pc _ fun _ _ _ _ => rfl)
  have e2 : (fun p : Node => decide (p.space? ≠ some nsCard)) ∘ clean pc = fun p => decide (p.space? ≠ some nsCard) :=
    funext (clean_congr pc (fun p => decide (p.space? ≠ some nsCard)) fun _ _ _ _ => rfl)
  simp only [decDataChildren, any_cleanList pc _ (byName_localIs "allprop"), filter_localIs_cleanList, List.map_map, List.any_map, e1, e2]

theorem decDataReq_clean (pcs : List Node) : decDataReq (cleanList pc pcs) = decDataReq pcs := by
  unfold decDataReq
  rw [find_cleanList pc _ (byName_isElem nsCard "address-data")]
  cases hf : pcs.find? (·.isElem nsCard "address-data") with
  | none => rfl
  | some n =>
    have hn := List.find?_some hf
    obtain ⟨q, a, cs, rfl, hc⟩ := clean_children pc n "address-data" (localIs_of_isElem hn) rfl
    simp only [Option.map_some, hc]
    exact decDataChildren_clean cs

/-- a scalar field takes the last child its tag selects, and that child has the tag -/
theorem getLast?_filter_some {p : Node → Bool} {cs : List Node} {l : Node} (h : (cs.filter p).getLast? = some l) : p l = true :=
  (List.mem_filter.mp (List.mem_of_getLast? h)).2

theorem decLimit_clean (cs : List Node) : decLimit (cleanList pc cs) = decLimit cs := by
  unfold decLimit
  rw [filter_localIs_cleanList, List.getLast?_map]
  cases hl : (cs.filter (·.localIs "limit")).getLast? with
  | none => rfl
  | some l =>
    obtain ⟨q, a, lc, rfl, hc⟩ := clean_children pc l "limit" (getLast?_filter_some hl) rfl
    simp only [Option.map_some, hc, Node.space?, filter_localIs_cleanList_pcdata pc "nresults" rfl]
    rfl

theorem dataReqOf_clean (cs : List Node) : dataReqOf (cleanList pc cs) = dataReqOf cs := by
  unfold dataReqOf
  rw [filter_isElem_cleanList, List.getLast?_map]
  cases hl : (cs.filter (·.isElem nsDav "prop")).getLast? with
  | none => rfl
  | some l =>
    obtain ⟨q, a, pcs, rfl, hc⟩ := clean_children pc l "prop" (localIs_of_isElem (getLast?_filter_some hl)) rfl
    simp only [Option.map_some, hc]
    exact decDataReq_clean pcs

theorem filterOf_clean (cs : List Node) : filterOf (cleanList pc cs) = filterOf cs := by
  unfold filterOf
  rw [filter_localIs_cleanList, List.getLast?_map]
  cases hl : (cs.filter (·.localIs "filter")).getLast? with
  | none => rfl
  | some l =>
    obtain ⟨q, a, fc, rfl, hc⟩ := clean_children pc l "filter" (getLast?_filter_some hl) rfl
    simp only [Option.map_some, hc, filter_localIs_cleanList, mapM_map_clean pc decPropFilter _ (fun x _ => decPropFilter_clean x)]

theorem decodeQuery_clean (n : Node) : decodeQuery (clean pc n) = decodeQuery n :=
  clean_congr pc _ (fun q a cs _ => by simp only [decodeQuery, decLimit_clean, dataReqOf_clean, filterOf_clean]) n

theorem decodeMultiGet_clean (unescape : String → Option String) (n : Node) :
    decodeMultiGet unescape (clean pc n) = decodeMultiGet unescape n :=
  clean_congr pc _ (fun q a cs _ => by
    simp only [decodeMultiGet, dataReqOf_clean, filter_isElem_cleanList_pcdata pc nsDav "href" rfl]) n

end GoWebdav.Lemmas.CarddavNoise
