import GoWebdav.Spec.Rfc4918
import GoWebdav.Lemmas.Path
import GoWebdav.Lemmas.Dispatch
/-!
The file-server model seen from the proofs: `localPath` is the specification's `target`; the regenerated method switch
as an equation (`step_eq`) and as a case analysis (`step_handler`); the regenerated header parsers against the
specification's validity predicates; all that `handleCopyMove` decides before it calls the file system.
-/
namespace GoWebdav.Lemmas.Webdav
open GoWebdav GoWebdav.Std.Path GoWebdav.Std.Posix GoWebdav.Impl.Path GoWebdav.Impl.Webdav GoWebdav.Spec.Rfc4918

theorem target_eq (name : Bytes) : target name = (localPath [] name).toOption := by
  unfold localPath target
  rw [Lemmas.Path.isAbs_clean]
  cases name.contains 0 <;> cases isAbs name <;> rfl

theorem target_of_ok {name : Bytes} {p : FPath} (h : localPath [] name = .ok p) : target name = some p := by
  rw [target_eq, h]; rfl

theorem target_of_error {name : Bytes} {e : LPErr} (h : localPath [] name = .error e) : target name = none := by
  rw [target_eq, h]; rfl

theorem overlap_false (a b : FPath) (h : overlap a b = false) : a.isPrefixOf b = false ∧ b.isPrefixOf a = false := by
  unfold overlap at h
  simpa using h

theorem readBody_error {r : Request} {u : Unit} (h : readBody r = .error u) : r.fault.isSome = true := by
  unfold readBody at h
  cases hf : r.fault with
  | none => rw [hf] at h; cases h
  | some n => rfl

theorem readBody_ok {r : Request} {c : Bytes} (h : readBody r = .ok c) : r.fault = none ∧ c = r.body := by
  unfold readBody at h
  cases hf : r.fault with
  | none => rw [hf] at h; cases h; exact ⟨rfl, rfl⟩
  | some n => rw [hf] at h; cases h

theorem step_eq (t : FS) (r : Request) : step t r =
    if r.method = "OPTIONS" then options t r
    else if r.method = "GET" ∨ r.method = "HEAD" then headGet t r
    else if r.method = "PUT" then put t r
    else if r.method = "DELETE" then delete t r
    else if r.method = "PROPFIND" then propfind t r
    else if r.method = "PROPPATCH" then proppatch t r
    else if r.method = "MKCOL" then mkcol t r
    else if r.method = "COPY" ∨ r.method = "MOVE" then copyMoveHandler t r
    else (t, err 405 (.text "unsupported method")) :=
  -- the handler name `step` switches on is `Impl.Frontend.handlerOf r.method`, up to unfolding
  Lemmas.Dispatch.switch_eq r.method ..

/-- `Handler r h`: the method switch hands request `r` to `h` -/
inductive Handler (r : Request) : (FS → Request → FS × Response) → Prop
  | options : r.method = "OPTIONS" → Handler r options
  | headGet : r.method = "GET" ∨ r.method = "HEAD" → Handler r headGet
  | put : r.method = "PUT" → Handler r put
  | delete : r.method = "DELETE" → Handler r delete
  | propfind : r.method = "PROPFIND" → Handler r propfind
  | proppatch : r.method = "PROPPATCH" → Handler r proppatch
  | mkcol : r.method = "MKCOL" → Handler r mkcol
  | copyMove : r.method = "COPY" ∨ r.method = "MOVE" → Handler r copyMoveHandler
  | other : r.method ∉ ["OPTIONS", "GET", "HEAD", "PUT", "DELETE", "PROPFIND", "PROPPATCH", "MKCOL", "COPY", "MOVE"] →
      Handler r (fun t _ => (t, err 405 (.text "unsupported method")))

/-- one link of the method switch: its handler serves the request, or one further down does -/
theorem handler_ite {r : Request} {c : Prop} [Decidable c] {f : FS → Request → FS × Response} {g : FS → FS × Response}
    (hf : c → Handler r f) (hg : ¬ c → ∃ h, Handler r h ∧ ∀ t, g t = h t r) :
    ∃ h, Handler r h ∧ ∀ t, (if c then f t r else g t) = h t r := by
  by_cases hc : c
  · exact ⟨f, hf hc, fun _ => if_pos hc⟩
  · obtain ⟨h, hh, he⟩ := hg hc
    exact ⟨h, hh, fun t => (if_neg hc).trans (he t)⟩

theorem step_handler (r : Request) : ∃ h, Handler r h ∧ ∀ t, step t r = h t r := by
  simp only [step_eq]
  refine handler_ite .options fun h1 => ?_
  refine handler_ite .headGet fun h2 => ?_
  refine handler_ite .put fun h3 => ?_
  refine handler_ite .delete fun h4 => ?_
  refine handler_ite .propfind fun h5 => ?_
  refine handler_ite .proppatch fun h6 => ?_
  refine handler_ite .mkcol fun h7 => ?_
  refine handler_ite .copyMove fun h8 => ?_
  refine ⟨_, .other ?_, fun _ => rfl⟩
  simp only [List.mem_cons, List.not_mem_nil, or_false, not_or] at h2 h8 ⊢
  exact ⟨h1, h2.1, h2.2, h3, h4, h5, h6, h7, h8.1, h8.2⟩

/-- the Overwrite header as the handler reads it (regenerated parser, absent = T) is the specification's reading -/
theorem overwrite_link (s : String) :
    (if s = "" then some true else Generated.parseOverwrite s) =
      if validOverwrite s then some (decide (s ≠ "F")) else none := by
  -- the valid values one by one; for any other both sides are `none`
  by_cases hv : s ∈ ["", "T", "F"]
  · simp only [List.mem_cons, List.not_mem_nil, or_false] at hv
    rcases hv with rfl | rfl | rfl <;> decide
  · simp only [List.mem_cons, List.not_mem_nil, or_false, not_or] at hv
    simp [Generated.parseOverwrite, validOverwrite, hv]

/-- … and the Depth header (absent = infinity) -/
theorem depth_link (s : String) :
    (if s = "" then some (-1) else Generated.parseDepth s) =
      if validDepth s then some (if s = "0" then 0 else if s = "1" then 1 else -1) else none := by
  by_cases hv : s ∈ ["", "0", "1", "infinity"]
  · simp only [List.mem_cons, List.not_mem_nil, or_false] at hv
    rcases hv with rfl | rfl | rfl | rfl <;> decide
  · simp only [List.mem_cons, List.not_mem_nil, or_false, not_or] at hv
    simp [Generated.parseDepth, validDepth, hv]

/-- `handleCopyMove` decides from the headers alone: it refuses with 400, or calls `LocalFileSystem.Copy` / `Move` on the
    request's path and destination; whatever is not COPY is treated as MOVE. -/
theorem copyMoveHandler_cases (r : Request) :
    (∃ m, (destTarget r = none ∨ validOverwrite r.overwrite = false ∨ validDepth r.depth = false ∨
          r.method = "COPY" ∧ r.depth = "1" ∨ r.method ≠ "COPY" ∧ (r.depth = "0" ∨ r.depth = "1")) ∧
        ∀ t, copyMoveHandler t r = (t, err 400 (.text m))) ∨
    (∃ d, r.dest = .path d ∧ validOverwrite r.overwrite = true ∧ validDepth r.depth = true ∧
        ¬ (r.method = "COPY" ∧ r.depth = "1") ∧ ¬ (r.method ≠ "COPY" ∧ (r.depth = "0" ∨ r.depth = "1")) ∧
        ∀ t, copyMoveHandler t r = copyMove t (decide (r.method ≠ "COPY")) r.path d
          (decide (¬ (r.method = "COPY" ∧ r.depth = "0"))) (decide (r.overwrite ≠ "F"))) := by
  unfold copyMoveHandler
  cases hd : r.dest with
  | absent => exact .inl ⟨_, .inl (by simp [destTarget, hd]), fun _ => rfl⟩
  | unparsable => exact .inl ⟨_, .inl (by simp [destTarget, hd]), fun _ => rfl⟩
  | path d =>
    simp only [overwrite_link, depth_link]
    cases validOverwrite r.overwrite with
    | false => exact .inl ⟨_, .inr (.inl rfl), fun _ => rfl⟩
    | true =>
    cases validDepth r.depth with
    | false => exact .inl ⟨_, .inr (.inr (.inl rfl)), fun _ => rfl⟩
    | true =>
    by_cases hc : r.method = "COPY"
    · by_cases h1 : r.depth = "1"
      · exact .inl ⟨"Depth: 1 is not supported in COPY request", .inr (.inr (.inr (.inl ⟨hc, h1⟩))), fun _ => by simp +decide [hc, h1]⟩
      · refine .inr ⟨d, rfl, rfl, rfl, fun h => h1 h.2, fun h => h.1 hc, fun _ => ?_⟩
        by_cases h0 : r.depth = "0" <;> simp +decide [hc, h0, h1]
    · by_cases h01 : r.depth = "0" ∨ r.depth = "1"
      · refine .inl ⟨"only Depth: infinity is accepted in MOVE request", .inr (.inr (.inr (.inr ⟨hc, h01⟩))), fun _ => ?_⟩
        rcases h01 with h | h <;> simp +decide [hc, h]
      · refine .inr ⟨d, rfl, rfl, rfl, fun h => hc h.1, fun h => h01 h.2, fun _ => ?_⟩
        simp only [not_or] at h01
        simp +decide [hc, h01]

end GoWebdav.Lemmas.Webdav
