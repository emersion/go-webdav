import GoWebdav.Lemmas.CaldavXml
import GoWebdav.Lemmas.Time
/-!
Helper lemmas for C08: how the lenient decoder (`Impl.CaldavWire.dec*`) sees the pieces the encoder writes.

Every field of a decoder is a function of `pick loc children` for its own `loc`; the encoder writes each field as a
run of elements with one name (`Named`).  So a round trip is: the runs of the encoded child list, then each field's
decoder on its own run.
-/
namespace GoWebdav.Lemmas.CaldavWire
open GoWebdav GoWebdav.Std.Xml GoWebdav.Std.Time GoWebdav.Impl.Caldav GoWebdav.Impl.CaldavWire GoWebdav.Spec.CaldavWire
open GoWebdav.Lemmas.Xml

theorem inRange_of (t : Int) (h : inRangeB t = true) : InRange t := by
  unfold inRangeB at h; unfold InRange; simpa using h

theorem named_ind (b : Bool) : Named nsCal "is-not-defined" (ind b) := .ite _ (.one _ _) .nil
theorem named_flag (l : String) (b : Bool) : Named nsCal l (flag l b) := .ite _ (.one _ _) .nil
theorem named_timeRange (s e : Int) : Named nsCal "time-range" (encTimeRange s e) := .ite _ .nil (.one _ _)
theorem named_encTM (t : Option TextMatch) : Named nsCal "text-match" (encTM t) := by
  cases t
  · exact .nil
  · exact .one _ _
theorem named_params (ps : List ParamFilter) : Named nsCal "param-filter" (ps.map encParamFilter) :=
  .map _ (fun _ => ⟨_, _, rfl⟩) ps
theorem named_props (ps : List PropFilter) : Named nsCal "prop-filter" (ps.map encPropFilter) :=
  .map _ (fun _ => ⟨_, _, rfl⟩) ps
theorem named_dataProps (ps : List String) : Named nsCal "prop" (ps.map (fun p => el "prop" [att "name" p] [])) :=
  .map _ (fun _ => ⟨_, _, rfl⟩) ps
theorem named_compFilters (cs : List CompFilter) : Named nsCal "comp-filter" (encCompFilters cs) := by
  induction cs with
  | nil => exact .nil
  | cons c cs ih => cases c; rw [encCompFilters, encCompFilter]; exact ih.cons
theorem named_comps (cs : List CompReq) : Named nsCal "comp" (encComps cs) := by
  induction cs with
  | nil => exact .nil
  | cons c cs ih => cases c; rw [encComps, encComp]; exact ih.cons

theorem flag_isEmpty (l : String) (b : Bool) : (flag l b).isEmpty = !b := by cases b <;> rfl

theorem pick_runs {l₁ l₂ l₃ l₄ : String} {r₁ r₂ r₃ r₄ cs : List Node} (h₁ : Named nsCal l₁ r₁)
    (h₂ : Named nsCal l₂ r₂) (h₃ : Named nsCal l₃ r₃) (h₄ : Named nsCal l₄ r₄) (hd : [l₁, l₂, l₃, l₄].Nodup)
    (h : r₁ ++ r₂ ++ r₃ ++ r₄ = cs) :
    pick l₁ cs = r₁ ∧ pick l₂ cs = r₂ ∧ pick l₃ cs = r₃ ∧ pick l₄ cs = r₄ := by
  subst h
  simp only [List.nodup_cons, List.mem_cons, List.not_mem_nil, or_false, not_or, List.nodup_nil, not_false_eq_true,
    and_true] at hd
  obtain ⟨⟨h12, h13, h14⟩, ⟨h23, h24⟩, h34⟩ := hd
  simp [pick_append, pick_named h₁, pick_named h₂, pick_named h₃, pick_named h₄, h12, h13, h14, h23, h24, h34,
    Ne.symm h12, Ne.symm h13, Ne.symm h14, Ne.symm h23, Ne.symm h24, Ne.symm h34]

@[simp] theorem nameAttr_att (n : String) : nameAttr [att "name" n] = n := by
  simp [nameAttr, attr, att]

theorem attr_timeAttrs (s e : Int) :
    attr (timeAttr "start" s ++ timeAttr "end" e) "start" = (if s = Z then none else some (fmt s)) ∧
      attr (timeAttr "start" s ++ timeAttr "end" e) "end" = (if e = Z then none else some (fmt e)) := by
  unfold timeAttr attr att
  by_cases hs : s = Z <;> by_cases he : e = Z <;> simp [hs, he]

theorem parse_fmt (t : Int) (h : InRange t) : parseCal (fmt t).toList = some t := by
  unfold fmt; simp [GoWebdav.Lemmas.Time.parseCal_fmtCal t h]

theorem decTime_of_attr {attrs : List (QName × String)} {loc : String} {t : Int}
    (h : attr attrs loc = if t = Z then none else some (fmt t)) (ht : InRange t) : decTime attrs loc = .ok t := by
  unfold decTime; rw [h]
  by_cases hz : t = Z <;> simp [hz, parse_fmt t ht]

theorem decRange_enc (loc : String) (s e : Int) (hs : InRange s) (he : InRange e) :
    decRange (el loc (timeAttr "start" s ++ timeAttr "end" e) []) = .ok (s, e) := by
  simp [decRange, el, checkNs, decTime_of_attr (attr_timeAttrs s e).1 hs, decTime_of_attr (attr_timeAttrs s e).2 he]

theorem decNegate_negAttr (b : Bool) : decNegate (negAttr b) = .ok b := by
  cases b <;> simp [decNegate, negAttr, Generated.caldavNegateFormat, Generated.caldavNegateParse, attr, att]

theorem decTextMatch_enc (t : TextMatch) : decTextMatch (encTextMatch t) = .ok t := by
  simp [decTextMatch, encTextMatch, el, checkNs, decNegate_negAttr, chardata_textNodes]

theorem decOptTextMatch_of (cs : List Node) (tm : Option TextMatch) (h : pick "text-match" cs = encTM tm) :
    decOptTextMatch cs = .ok tm := by
  unfold decOptTextMatch single
  rw [h]
  cases tm <;> simp [encTM, decTextMatch_enc]

/-- what `decOptRange` yields on the encoder's time-range: no element is written when both bounds are open -/
def rangeOf (s e : Int) : Option (Int × Int) := if s = Z ∧ e = Z then none else some (s, e)

theorem rangeOf_fst (s e : Int) : ((rangeOf s e).getD (Z, Z)).1 = s := by
  unfold rangeOf; split <;> simp_all
theorem rangeOf_snd (s e : Int) : ((rangeOf s e).getD (Z, Z)).2 = e := by
  unfold rangeOf; split <;> simp_all
theorem rangeOf_isSome (s e : Int) : (rangeOf s e).isSome = (s != Z || e != Z) := by
  unfold rangeOf; by_cases hs : s = Z <;> by_cases he : e = Z <;> simp [hs, he]

theorem decOptRange_of (cs : List Node) (s e : Int) (hs : InRange s) (he : InRange e)
    (h : pick "time-range" cs = encTimeRange s e) : decOptRange "time-range" cs = .ok (rangeOf s e) := by
  unfold decOptRange single rangeOf
  rw [h]; unfold encTimeRange
  by_cases hz : s = Z ∧ e = Z <;> simp [hz, decRange_enc "time-range" s e hs he]

theorem decParamFilter_enc (p : ParamFilter) (h : okParam p = true) : decParamFilter (encParamFilter p) = .ok p := by
  obtain ⟨name, i, tm⟩ := p
  have p1 : pick "is-not-defined" (ind i ++ encTM tm) = ind i := by
    simp [pick_append, pick_named (named_ind i), pick_named (named_encTM tm)]
  have p2 : pick "text-match" (ind i ++ encTM tm) = encTM tm := by
    simp [pick_append, pick_named (named_ind i), pick_named (named_encTM tm)]
  simp only [decParamFilter, encParamFilter, el, checkNs, decOptTextMatch_of _ tm p2, hasInd_of _ i p1, nameAttr_att, ok_bind,
    pure_ok, if_true]
  -- left: the decoder's 400 for is-not-defined next to a text-match, which `okParam` excludes
  cases i <;> cases tm <;> simp_all [okParam]

theorem decPropFilter_enc (p : PropFilter) (h : okProp p = true) : decPropFilter (encPropFilter p) = .ok p := by
  obtain ⟨name, i, s, e, tm, params⟩ := p
  simp only [okProp, Bool.and_eq_true, List.all_eq_true] at h
  obtain ⟨⟨⟨hs, he⟩, hps⟩, hex⟩ := h
  simp only [decPropFilter, encPropFilter, el, checkNs, nameAttr_att, if_true]
  generalize hcs : ind i ++ encTimeRange s e ++ encTM tm ++ params.map encParamFilter = cs
  obtain ⟨p1, p2, p3, p4⟩ := pick_runs (named_ind i) (named_timeRange s e) (named_encTM tm) (named_params params) (by simp) hcs
  simp only [decOptRange_of cs s e (inRange_of s hs) (inRange_of e he) p2, decOptTextMatch_of cs tm p3, p4,
    mapM_map_ok _ _ _ (fun x hx => decParamFilter_enc x (hps x hx)), hasInd_of cs i p1, ok_bind, pure_ok, rangeOf_fst, rangeOf_snd,
    rangeOf_isSome]
  -- left: the decoder's 400 for is-not-defined next to other conditions; `hex` (from `okProp`) says there are none
  cases i
  · simp
  · simp_all

theorem encCompFilters_isEmpty (cs : List CompFilter) : (encCompFilters cs).isEmpty = cs.isEmpty := by
  cases cs <;> simp [encCompFilters]

mutual
theorem decCompFilter_enc : ∀ (f : CompFilter), okCF f = true → decCompFilter (encCompFilter f) = .ok f
  | .mk name i s e props comps, h => by
    simp only [okCF, Bool.and_eq_true, List.all_eq_true] at h
    obtain ⟨⟨⟨⟨hs, he⟩, hps⟩, hcs'⟩, hex⟩ := h
    have ihc := decCompFilters_enc comps hcs'
    simp only [decCompFilter, encCompFilter, el, checkNs, nameAttr_att, if_true]
    generalize hcs : ind i ++ encTimeRange s e ++ props.map encPropFilter ++ encCompFilters comps = cs
    obtain ⟨p1, p2, p3, p4⟩ :=
      pick_runs (named_ind i) (named_timeRange s e) (named_props props) (named_compFilters comps) (by simp) hcs
    rw [decCompFilters_eq, pick_named (named_compFilters comps), if_pos rfl] at ihc
    simp only [decOptRange_of cs s e (inRange_of s hs) (inRange_of e he) p2, p3,
      mapM_map_ok _ _ _ (fun x hx => decPropFilter_enc x (hps x hx)), decCompFilters_eq, p4, ihc, hasInd_of cs i p1,
      ok_bind, pure_ok, rangeOf_fst, rangeOf_snd, rangeOf_isSome]
    -- as in `decPropFilter_enc`: `hex` (from `okCF`)
    cases i
    · simp
    · simp_all
theorem decCompFilters_enc : ∀ (fs : List CompFilter), okCFs fs = true → decCompFilters (encCompFilters fs) = .ok fs
  | [], _ => rfl
  | f :: fs, h => by
    simp only [okCFs, Bool.and_eq_true] at h
    have ih := decCompFilters_enc fs h.2
    rw [decCompFilters_eq, pick_named (named_compFilters _), if_pos rfl] at ih ⊢
    rw [encCompFilters, List.mapM_cons, decCompFilter_enc f h.1, ih]; rfl
end

theorem decPropName_enc (p : String) : decPropName (el "prop" [att "name" p] []) = .ok p := by
  simp [decPropName, el, checkNs]

mutual
theorem decComp_enc : ∀ (c : CompReq), okCR c = true → decComp (encComp c) = .ok c
  | .mk name ap props ac comps, h => by
    simp only [okCR, Bool.and_eq_true] at h
    obtain ⟨⟨hcs', hap⟩, hac⟩ := h
    have ihc := decComps_enc comps hcs'
    rw [encComp]
    generalize hcs : flag "allprop" ap ++ props.map (fun p => el "prop" [att "name" p] []) ++ flag "allcomp" ac ++ encComps comps = cs
    obtain ⟨p1, p2, p3, p4⟩ :=
      pick_runs (named_flag _ ap) (named_dataProps props) (named_flag _ ac) (named_comps comps) (by simp) hcs
    rw [decComps_eq, pick_named (named_comps comps), if_pos rfl] at ihc
    show decComp (.elem ⟨nsCal, "comp"⟩ [att "name" name] cs) = _
    simp only [decComp, checkNs, nameAttr_att, ok_bind, pure_ok, if_true, p2,
      mapM_map_ok _ _ _ (fun x _ => decPropName_enc x), decComps_eq, p4, ihc, any_eq_pick, p1, p3, flag_isEmpty]
    -- left: the decoder's 400 for allprop next to prop elements and for allcomp next to comp elements; `hap`, `hac` (from `okCR`)
    cases ap <;> cases ac <;> simp_all
theorem decComps_enc : ∀ (cs : List CompReq), okCRs cs = true → decComps (encComps cs) = .ok cs
  | [], _ => rfl
  | c :: cs, h => by
    simp only [okCRs, Bool.and_eq_true] at h
    have ih := decComps_enc cs h.2
    rw [decComps_eq, pick_named (named_comps _), if_pos rfl] at ih ⊢
    rw [encComps, List.mapM_cons, decComp_enc c h.1, ih]; rfl
end

def encDataProp (p : String) : Node := el "prop" [att "name" p] []

theorem encComp_root (c : CompReq) : ∃ a cs, encComp c = el "comp" a cs := by
  cases c; exact ⟨_, _, by rw [encComp]⟩

theorem encCompFilter_root (f : CompFilter) : ∃ a cs, encCompFilter f = el "comp-filter" a cs := by
  cases f; exact ⟨_, _, by rw [encCompFilter]⟩

theorem named_expand (ex : Option (Int × Int)) : Named nsCal "expand" (encExpand ex) := by
  cases ex
  · exact .nil
  · exact .one _ _

theorem decExpand_enc (pre : List Node) (ex : Option (Int × Int)) (hp : pick "expand" pre = [])
    (h : (match ex with | some (s, e) => inRangeB s && inRangeB e | none => true) = true) :
    decOptRange "expand" (pre ++ encExpand ex) = .ok ex := by
  unfold decOptRange single
  rw [pick_append, hp, pick_named (named_expand ex), if_pos rfl]
  match ex with
  | none => rfl
  | some (s, e) =>
    simp only [Bool.and_eq_true] at h
    simp [encExpand, decRange_enc "expand" s e (inRange_of s h.1) (inRange_of e h.2)]

theorem decDataReq_enc (d : DataReq) (h : okData d = true) :
    decDataReq [el "calendar-data" [] (encComp d.comp :: encExpand d.expand), dav "getlastmodified" [], dav "getetag" []] = .ok d := by
  obtain ⟨c, ex⟩ := d
  simp only [okData, Bool.and_eq_true] at h
  obtain ⟨a, cs, hc⟩ := encComp_root c
  have hpc : pick "comp" (encComp c :: encExpand ex) = [encComp c] := by
    rw [hc, pick_el, if_pos rfl, pick_named (named_expand ex)]; rfl
  have hex : decOptRange "expand" (encComp c :: encExpand ex) = .ok ex :=
    decExpand_enc [encComp c] ex (by rw [hc, pick_el]; rfl) h.2
  simp only [decDataReq, List.find?_cons, el, dav, Node.isElem, beq_self_eq_true, Bool.and_self]
  simp only [single, hpc, hex, decComp_enc c h.1, ok_bind, pure_ok]

theorem decPropReq_enc (d : DataReq) (rest : List Node) (h : okData d = true)
    (hr : rest.filter (·.isElem nsDav "prop") = []) : decPropReq (encDataReq d :: rest) = .ok d := by
  unfold decPropReq
  rw [List.filter_cons, hr]
  exact decDataReq_enc d h

theorem decodeQuery_encodeQuery (q : Query) (h : Accepted q = true) : decodeQuery (encodeQuery q) = .ok q := by
  obtain ⟨d, f⟩ := q
  simp only [Accepted, Bool.and_eq_true] at h
  obtain ⟨a, cs, hf⟩ := encCompFilter_root f
  have hfil : single "filter" [encDataReq d, el "filter" [] [encCompFilter f]] = .ok (some (el "filter" [] [encCompFilter f])) := rfl
  have hcf : single "comp-filter" [encCompFilter f] = .ok (some (encCompFilter f)) := by
    unfold single; rw [hf, pick_el]; rfl
  have hprop : decPropReq [encDataReq d, el "filter" [] [encCompFilter f]] = .ok d := decPropReq_enc d _ h.1 rfl
  simp only [decodeQuery, encodeQuery, el] at hfil hprop ⊢
  simp only [beq_self_eq_true, Bool.and_self, Bool.not_true, Bool.false_eq_true, if_false, hfil, ok_bind, checkNs,
    if_true, pure_ok, hcf, decCompFilter_enc f h.2, hprop]

theorem decodeMultiGet_encodeMultiGet (rp : String) (escape : String → String) (unescape : String → Option String)
    (m : MultiGet) (h : okData m.data = true)
    (hesc : ∀ p ∈ (if m.paths.isEmpty then [rp] else m.paths), unescape (escape p) = some p) :
    decodeMultiGet unescape (encodeMultiGet rp escape m) = .ok ⟨m.data, if m.paths.isEmpty then [rp] else m.paths⟩ := by
  unfold encodeMultiGet
  generalize (if m.paths.isEmpty then [rp] else m.paths) = paths at hesc ⊢
  have hn : Named nsDav "href" (paths.map (fun p => dav "href" [Node.text (escape p)])) := .map _ (fun _ => ⟨_, _, rfl⟩) _
  have hhref : ((encDataReq m.data :: paths.map (fun p => dav "href" [Node.text (escape p)])).filter (·.isElem nsDav "href")).mapM
      (decHref unescape) = .ok paths := by
    rw [List.filter_cons, if_neg (by simp [encDataReq, dav, Node.isElem]), hn.filter_isElem, if_pos ⟨rfl, rfl⟩]
    exact mapM_map_ok _ _ _ (fun x hx => by simp [decHref, dav, chardata, hesc x hx])
  have hprop := decPropReq_enc m.data _ h (by rw [hn.filter_isElem, if_neg (by simp)])
  simp only [decodeMultiGet, el, beq_self_eq_true, Bool.and_self, Bool.not_true, Bool.false_eq_true, if_false, ok_bind,
    hhref, hprop, pure_ok]

end GoWebdav.Lemmas.CaldavWire
