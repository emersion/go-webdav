import GoWebdav.Lemmas.CaldavXml
/-!
Helper lemmas for C08, wire → backend: on EVERY element the strict RFC 4791 reader accepts (not only those the
library's client writes) the server's decoder yields the value the reader reads.

A child list the reader accepts follows a content model whose symbols are CalDAV names (`model_sound`).  That makes it
a list of CalDAV elements, among which reader and decoder select the same children (`filter_named`, `find_named`), and
bounds how often a name occurs (`seqOK_count`), so that the decoder's singular fields (`single`) see what the reader's
`find?` sees.
-/
namespace GoWebdav.Lemmas.CaldavAgree
open GoWebdav GoWebdav.Std.Xml GoWebdav.Std.Time GoWebdav.Impl.Caldav GoWebdav.Impl.CaldavWire GoWebdav.Spec.CaldavWire
open GoWebdav.Lemmas.CaldavWire GoWebdav.Lemmas.CaldavRead GoWebdav.Lemmas.Xml

def sym : Pat → String
  | .one s => s
  | .opt s => s
  | .star s => s

theorem count_dropWhile {a s : String} (h : a ≠ s) (ts : List String) : (ts.dropWhile (· == a)).count s = ts.count s := by
  fun_induction List.dropWhile (· == a) ts with
  | case1 => rfl   -- the empty list
  | case2 t ts hta ih =>
    -- the head is dropped: it is `a`, which is not counted
    have : ¬ (t == s) = true := by rw [eq_of_beq hta]; simpa using h
    rw [ih, List.count_cons, if_neg this]; rfl
  | case3 => rfl   -- the head stays, and with it the whole list

theorem seqOK_count {ps : List Pat} {ts : List String} (h : seqOK ps ts = true) (s : String) (hs : .star s ∉ ps) :
    ts.count s ≤ (ps.map sym).count s := by
  fun_induction seqOK ps ts with
  | case1 ts => simp_all   -- the model is used up: so is `ts`
  | case2 a ps t ts ih =>
    -- `one a` takes the head
    simp only [Bool.and_eq_true, beq_iff_eq] at h
    rw [List.map_cons, List.count_cons, List.count_cons, h.1]
    exact Nat.add_le_add_right (ih h.2 (mt (List.mem_cons_of_mem _) hs)) _
  | case3 => simp   -- `one a` finds nothing
  | case4 a ps t ts hta ih =>
    -- `opt a` takes the head
    rw [List.map_cons, List.count_cons, List.count_cons, eq_of_beq hta]
    exact Nat.add_le_add_right (ih h (mt (List.mem_cons_of_mem _) hs)) _
  | case5 a ps t ts _ ih | case6 a ps ih =>
    -- `opt a` takes nothing
    exact Nat.le_trans (ih h (mt (List.mem_cons_of_mem _) hs)) List.count_le_count_cons
  | case7 a ps ts ih =>
    -- `star a` takes its run, in which `s` does not occur
    have hne : a ≠ s := fun e => hs (e ▸ List.mem_cons_self)
    rw [← count_dropWhile hne]
    exact Nat.le_trans (ih h (mt (List.mem_cons_of_mem _) hs)) List.count_le_count_cons

theorem seqOK_mem {ps : List Pat} {ts : List String} (h : seqOK ps ts = true) : ∀ t ∈ ts, t ∈ ps.map sym := fun t ht =>
  Decidable.byContradiction fun hn => by
    have := seqOK_count h t (fun hm => hn (List.mem_map_of_mem hm))
    rw [List.count_eq_zero.mpr hn] at this
    exact Nat.not_lt.mpr this (List.count_pos_iff.mpr ht)

theorem model_sound {ps : List Pat} {cs : List Node} (hS : ∀ s ∈ ps.map sym, CalSym s) (h : seqOK ps (cs.map tag) = true) :
    AllCal cs ∧ (∀ s, s ∉ ps.map sym → pick s cs = []) ∧
      ∀ s, .star s ∉ ps → (pick s cs).length ≤ (ps.map sym).count s := by
  have hall : AllCal cs := fun n hn =>
    let ⟨a, c, e⟩ := el_of_tag rfl (hS _ (seqOK_mem h _ (List.mem_map_of_mem hn))); ⟨_, a, c, e⟩
  have hle : ∀ s, .star s ∉ ps → (pick s cs).length ≤ (ps.map sym).count s := fun s hs => by
    rw [← filter_named hall, ← List.countP_eq_length_filter]
    have := seqOK_count h s hs
    rwa [List.count_eq_countP, List.countP_map] at this
  refine ⟨hall, fun s hs => ?_, hle⟩
  have := hle s (fun hm => hs (List.mem_map_of_mem (f := sym) hm))
  rw [List.count_eq_zero.mpr hs] at this
  exact List.length_eq_zero_iff.mp (Nat.le_zero.mp this)

theorem single_nil (loc : String) : single loc [] = .ok none := rfl

theorem single_of_le_one {loc : String} {cs : List Node} (h : (pick loc cs).length ≤ 1) :
    single loc cs = .ok (pick loc cs).head? := by
  unfold single
  match pick loc cs, h with
  | [], _ => rfl
  | [n], _ => rfl

theorem name_of_named {q : QName} {a : List (QName × String)} {c : List Node} {loc : String} (h : named (.elem q a c) loc = true)
    (hs : CalSym loc) : q = ⟨nsCal, loc⟩ := by
  obtain ⟨a', c', e⟩ := el_of_named h hs
  exact (Node.elem.inj e).1

theorem nameAttr_of_reqName {attrs : List (QName × String)} {name : String} (h : reqName attrs = some name) :
    nameAttr attrs = name := by
  unfold nameAttr; unfold reqName at h; rw [h]; rfl

theorem decTime_of_read {attrs : List (QName × String)} {loc : String} {o : Option Int} (h : readTime attrs loc = some o) :
    decTime attrs loc = .ok (o.getD Z) := by
  unfold readTime at h
  unfold decTime
  cases ha : attr attrs loc with
  | none => rw [ha] at h; cases h; rfl
  | some v =>
    rw [ha] at h
    obtain ⟨t, ht, rfl⟩ := Option.map_eq_some_iff.mp h
    simp [ht]

theorem decRange_of_bounds (loc : String) (attrs : List (QName × String)) (cs : List Node) {s e : Option Int}
    (hs : readTime attrs "start" = some s) (he : readTime attrs "end" = some e) :
    decRange (.elem ⟨nsCal, loc⟩ attrs cs) = .ok (s.getD Z, e.getD Z) := by
  simp [decRange, checkNs, decTime_of_read hs, decTime_of_read he]

theorem decRange_of_readTimeRange {n : Node} {r : Int × Int} (h : readTimeRange n = some r) : decRange n = .ok r := by
  unfold readTimeRange at h
  split at h
  · next q attrs =>
    simp only [read_inv] at h
    obtain ⟨⟨hn, _⟩, s, hs, e, he, _, rfl⟩ := h
    obtain rfl := name_of_named hn (by simp [CalSym])
    exact decRange_of_bounds _ _ _ hs he
  · cases h

theorem decRange_of_readExpand {n : Node} {r : Int × Int} (h : readExpand n = some r) : decRange n = .ok r := by
  unfold readExpand at h
  split at h
  · next q attrs =>
    simp only [read_inv] at h
    obtain ⟨⟨hn, _⟩, s, hs, e, he, h⟩ := h
    obtain rfl := name_of_named hn (by simp [CalSym])
    match s, e, h with
    | some s, some e, h => cases h; exact decRange_of_bounds _ _ _ hs he
  · cases h

theorem readTextMatch_some {n : Node} {t : TextMatch} (h : readTextMatch n = some t) :
    ∃ a cs, n = el "text-match" a cs ∧ decNegate a = .ok t.negate ∧ t.text = chardata cs := by
  cases n with
  | elem q a cs =>
    simp only [readTextMatch, read_inv] at h
    obtain ⟨⟨⟨hn, -⟩, -⟩, h⟩ := h
    obtain rfl := name_of_named hn (by simp [CalSym])
    refine ⟨a, cs, rfl, ?_⟩
    -- the reader's literals for negate-condition, yes and no, are the generated parser's table
    unfold decNegate Generated.caldavNegateParse
    split at h <;> cases h <;> simp [*]
  | _ => cases h

theorem decTextMatch_of_read (n : Node) (t : TextMatch) (h : readTextMatch n = some t) : decTextMatch n = .ok t := by
  obtain ⟨a, cs, rfl, hneg, htext⟩ := readTextMatch_some h
  simp only [decTextMatch, el, checkNs, if_true, hneg, ← htext, ok_bind, pure_ok]

theorem decParamFilter_of_read (n : Node) (p : ParamFilter) (h : readParamFilter n = some p) : decParamFilter n = .ok p := by
  cases n with
  | text s => cases h
  | comment s => cases h
  | elem q attrs cs =>
    simp only [readParamFilter, read_inv] at h
    obtain ⟨⟨hn, _⟩, name, hname, h⟩ := h
    obtain rfl := name_of_named hn (by simp [CalSym])
    simp only [decParamFilter, checkNs, if_true, nameAttr_of_reqName hname, ok_bind]
    match cs, h with
    | [], h => cases h; rfl
    | [c], h =>
      simp only at h
      split at h
      · next hind =>
        obtain ⟨a, k, rfl⟩ := el_of_named hind (by simp [CalSym])
        split at h
        · cases h; simp [decOptTextMatch, single, pick_el, hasInd_eq]
        · cases h
      · simp only [read_inv] at h
        obtain ⟨t, ht, rfl⟩ := h
        obtain ⟨a, k, rfl, -⟩ := readTextMatch_some ht
        simp [decOptTextMatch, single, pick_el, decTextMatch_of_read _ t ht, hasInd_eq]

theorem decOptRange_of_read {cs : List Node} (hall : AllCal cs) (h1 : (pick "time-range" cs).length ≤ 1) {r : Int × Int}
    (h : optRange cs = some r) : ∃ tr, decOptRange "time-range" cs = .ok tr ∧ tr.getD (Z, Z) = r := by
  unfold optRange at h
  rw [find_named hall] at h
  unfold decOptRange
  rw [single_of_le_one h1]
  cases hp : (pick "time-range" cs).head? with
  | none => rw [hp] at h; cases h; exact ⟨none, rfl, rfl⟩
  | some n =>
    rw [hp] at h
    exact ⟨some r, by simp [decRange_of_readTimeRange h], rfl⟩

theorem decOptTextMatch_of_read {cs : List Node} (hall : AllCal cs) (h1 : (pick "text-match" cs).length ≤ 1)
    {tm : Option TextMatch} (h : optTextMatch cs = some tm) : decOptTextMatch cs = .ok tm := by
  unfold optTextMatch at h
  rw [find_named hall] at h
  unfold decOptTextMatch
  rw [single_of_le_one h1]
  cases hp : (pick "text-match" cs).head? with
  | none => rw [hp] at h; cases h; rfl
  | some n =>
    rw [hp] at h
    obtain ⟨t, ht, rfl⟩ := Option.map_eq_some_iff.mp h
    simp [decTextMatch_of_read n t ht]

theorem decPropFilter_of_read (n : Node) (p : PropFilter) (h : readPropFilter n = some p) : decPropFilter n = .ok p := by
  cases n with
  | text s => cases h
  | comment s => cases h
  | elem q attrs cs =>
    simp only [readPropFilter, read_inv] at h
    obtain ⟨⟨hn, _⟩, name, hname, h⟩ := h
    obtain rfl := name_of_named hn (by simp [CalSym])
    simp only [decPropFilter, checkNs, if_true, nameAttr_of_reqName hname, ok_bind]
    split at h
    · next hone =>
      cases h
      simp [(indAlone_iff cs).mp hone, decOptRange, decOptTextMatch, single, pick_el, hasInd_eq]
    · simp only [read_inv] at h
      obtain ⟨hseq, r, hr, tm, htm, ps, hps, rfl⟩ := h
      -- under either content model the children are CalDAV elements, time-range and text-match are optional or absent
      -- (at most one each) and is-not-defined does not occur
      have ⟨hall, htr, htm1, hind⟩ : AllCal cs ∧ (pick "time-range" cs).length ≤ 1 ∧ (pick "text-match" cs).length ≤ 1 ∧
          pick "is-not-defined" cs = [] := by
        rcases hseq with h | h <;> obtain ⟨hall, hnone, hle⟩ := model_sound (by simp [sym, CalSym]) h <;>
          exact ⟨hall, Nat.le_trans (hle _ (by simp)) (by simp [sym]), Nat.le_trans (hle _ (by simp)) (by simp [sym]),
            hnone _ (by simp [sym])⟩
      obtain ⟨tr, e1, rfl⟩ := decOptRange_of_read hall htr hr
      rw [filter_named hall] at hps
      simp only [e1, decOptTextMatch_of_read hall htm1 htm, mapM_agree _ _ _ (fun n _ => decParamFilter_of_read n) _ hps,
        hasInd_of cs false hind, Bool.false_eq_true, false_and, if_false, ok_bind, pure_ok]

theorem readPropFilter_ok (n : Node) (p : PropFilter) (h : readPropFilter n = some p) : decPropFilter n = .ok p :=
  decPropFilter_of_read n p h

theorem decCompFilter_of_read (n : Node) (cf : CompFilter) (h : readCompFilter n = some cf) : decCompFilter n = .ok cf := by
  induction n using Node.induct generalizing cf with
  | text s => simp [readCompFilter] at h
  | comment s => simp [readCompFilter] at h
  | elem q attrs cs ih =>
    simp only [readCompFilter, read_inv] at h
    obtain ⟨⟨⟨hq, _⟩, _⟩, name, hname, h⟩ := h
    simp only [decCompFilter, checkNs, hq, if_true, nameAttr_of_reqName hname, ok_bind]
    split at h
    · next hone =>
      cases h
      simp [(indAlone_iff cs).mp hone, decOptRange, decCompFilters_eq, single, pick_el, hasInd_eq]
    · simp only [read_inv] at h
      obtain ⟨hseq, r, hr, props, hps, comps, hcs, rfl⟩ := h
      obtain ⟨hall, hnone, hle⟩ := model_sound (by simp [sym, CalSym]) hseq
      obtain ⟨tr, e1, rfl⟩ := decOptRange_of_read hall (Nat.le_trans (hle _ (by simp)) (by simp [sym])) hr
      rw [filter_named hall] at hps
      rw [readCompFilters_eq, filter_named hall] at hcs
      simp only [e1, mapM_agree _ _ _ (fun n _ => decPropFilter_of_read n) _ hps, decCompFilters_eq,
        mapM_agree _ _ (pick "comp-filter" cs) (fun c hc => ih c (List.mem_filter.mp hc).1) _ hcs,
        hasInd_of cs false (hnone _ (by simp [sym])), Bool.false_eq_true, false_and, if_false, ok_bind, pure_ok]

theorem decCompFilters_of_read : ∀ (l : List Node) (cfs : List CompFilter), AllCal l → readCompFilters l = some cfs →
    decCompFilters l = .ok cfs := fun l cfs hall h => by
  rw [readCompFilters_eq, filter_named hall] at h
  rw [decCompFilters_eq]
  exact mapM_agree _ _ _ (fun n _ => decCompFilter_of_read n) _ h

theorem decPropName_of_read (n : Node) (name : String) (h : readDataProp n = some name) : decPropName n = .ok name := by
  unfold readDataProp at h
  split at h
  · next q attrs =>
    simp only [Option.ite_none_right_eq_some, Bool.and_eq_true] at h
    obtain rfl := name_of_named h.1.1 (by simp [CalSym])
    simp [decPropName, checkNs, nameAttr_of_reqName h.2]
  · cases h

theorem decComps_nil (cs : List Node) (h : ∀ n ∈ cs, n.localIs "comp" = false) : decComps cs = .ok [] := by
  rw [decComps_eq, show pick "comp" cs = [] from List.filter_eq_nil_iff.mpr fun n hn => by simp [h n hn]]; rfl

theorem decComp_of_read (n : Node) (c : CompReq) (h : readComp n = some c) : decComp n = .ok c := by
  induction n using Node.induct generalizing c with
  | text s => simp [readComp] at h
  | comment s => simp [readComp] at h
  | elem q attrs cs ih =>
    simp only [readComp, read_inv] at h
    obtain ⟨⟨⟨hq, _⟩, _⟩, name, hname, hseq, _, props, hps, comps, hcs, rfl⟩ := h
    obtain ⟨hall, hnone, _⟩ := model_sound (fun s hs => by
      simp only [List.map_cons, List.map_nil, List.mem_cons, List.not_mem_nil, or_false] at hs
      rcases hs with rfl | rfl <;> split <;> simp [sym, CalSym]) hseq
    rw [filter_named hall] at hps
    rw [readComps_eq, filter_named hall] at hcs
    -- either flag replaces the `star` of one name by a `one` of another, so that the starred name does not occur
    have hp : (cs.map tag).contains "allprop" = true → props = [] := fun h => by
      rw [hnone "prop" (by rw [h]; cases (cs.map tag).contains "allcomp" <;> simp [sym])] at hps
      exact (Option.some.inj hps).symm
    have hc : (cs.map tag).contains "allcomp" = true → comps = [] := fun h => by
      rw [hnone "comp" (by rw [h]; cases (cs.map tag).contains "allprop" <;> simp [sym])] at hcs
      exact (Option.some.inj hcs).symm
    simp only [decComp, checkNs, hq, if_true, nameAttr_of_reqName hname, ok_bind,
      mapM_agree _ _ _ (fun n _ => decPropName_of_read n) _ hps, decComps_eq,
      mapM_agree _ _ (pick "comp" cs) (fun c hc => ih c (List.mem_filter.mp hc).1) _ hcs, any_eq_pick, ← contains_tag hall]
    rw [if_neg (fun h => by simp [hp h.1] at h), if_neg (fun h => by simp [hc h.1] at h)]; rfl

theorem decComps_of_read : ∀ (l : List Node) (cs : List CompReq), AllCal l → readComps l = some cs → decComps l = .ok cs :=
  fun l cs hall h => by
  rw [readComps_eq, filter_named hall] at h
  rw [decComps_eq]
  exact mapM_agree _ _ _ (fun n _ => decComp_of_read n) _ h

theorem decDataReq_of_read {pc : List Node} {cd : Node} {d : DataReq}
    (hfind : pc.find? (·.isElem nsCal "calendar-data") = some cd) (h : readCalendarData cd = some d) : decDataReq pc = .ok d := by
  cases cd with
  | text s => cases h
  | comment s => cases h
  | elem q attrs cs =>
    simp only [readCalendarData, read_inv] at h
    obtain ⟨_, hseq, comp, hcomp, ex, hex, rfl⟩ := h
    obtain ⟨hall, _, hle⟩ := model_sound (by simp [sym, CalSym]) hseq
    rw [find_named hall] at hcomp hex
    unfold decDataReq
    rw [hfind]
    simp only [decOptRange, single_of_le_one (Nat.le_trans (hle "comp" (by simp)) (by simp [sym])),
      single_of_le_one (Nat.le_trans (hle "expand" (by simp)) (by simp [sym])), ok_bind]
    cases h1 : (pick "comp" cs).head? with
    | none =>
      rw [h1] at hcomp; cases hcomp
      cases h2 : (pick "expand" cs).head? with
      | none => rw [h2] at hex; cases hex; rfl
      | some e =>
        rw [h2] at hex
        obtain ⟨r, hr, rfl⟩ := Option.map_eq_some_iff.mp hex
        simp [decRange_of_readExpand hr]
    | some c =>
      rw [h1] at hcomp
      cases h2 : (pick "expand" cs).head? with
      | none => rw [h2] at hex; cases hex; simp [decComp_of_read c comp hcomp]
      | some e =>
        rw [h2] at hex
        obtain ⟨r, hr, rfl⟩ := Option.map_eq_some_iff.mp hex
        simp [decComp_of_read c comp hcomp, decRange_of_readExpand hr]

theorem named_eq_isElem (n : Node) {loc : String} (hs : CalSym loc) : named n loc = n.isElem nsCal loc := by
  rw [Bool.eq_iff_iff]
  constructor
  · intro h
    obtain ⟨a, c, rfl⟩ := el_of_named h hs
    simp [el]
  · intro h
    obtain ⟨a, c, rfl⟩ := isElem_iff.mp h
    simp

/-- the two `false`s: the decoder's lookups for the filter and the hrefs pass over a property request -/
theorem propReq_of_read {a : Node} {d : DataReq} (h : readPropReq a = some d) :
    decPropReq [a] = .ok d ∧ a.localIs "filter" = false ∧ a.isElem nsDav "href" = false := by
  have hf (cs : List Node) : cs.find? (·.isElem nsCal "calendar-data") = (cs.filter (named · "calendar-data")).head? := by
    rw [List.head?_filter]; congr; funext n; exact (named_eq_isElem n (by simp [CalSym])).symm
  revert h
  fun_cases readPropReq a with
  | case2 q cs hdav hl _ =>
    -- DAV:allprop, DAV:propname
    obtain ⟨sp, l⟩ := q
    cases Decidable.not_not.mp hdav
    rintro ⟨⟩
    rcases hl with rfl | rfl <;> exact ⟨rfl, rfl, rfl⟩
  | case5 q cs hdav _ hl _ hnil =>
    -- DAV:prop without a calendar-data element
    obtain ⟨sp, l⟩ := q
    cases Decidable.not_not.mp hdav
    cases hl
    rintro ⟨⟩
    exact ⟨by show decDataReq cs = _; rw [decDataReq, hf, hnil]; rfl, rfl, rfl⟩
  | case6 q cs hdav _ hl _ cd hone =>
    -- DAV:prop with one
    obtain ⟨sp, l⟩ := q
    cases Decidable.not_not.mp hdav
    cases hl
    exact fun h => ⟨decDataReq_of_read (by rw [hf, hone]; rfl) h, rfl, rfl⟩
  | _ => nofun

theorem decPropReq_cons (a : Node) {rest : List Node} (h : rest.filter (·.isElem nsDav "prop") = []) :
    decPropReq (a :: rest) = decPropReq [a] := by
  unfold decPropReq; rw [List.filter_cons, List.filter_cons, h]; rfl

theorem readFilter_some {f : Node} {cf : CompFilter} (h : readFilter f = some cf) :
    ∃ c, f = el "filter" [] [c] ∧ readCompFilter c = some cf := by
  unfold readFilter at h
  split at h
  · next fq c =>
    simp only [Option.ite_none_right_eq_some] at h
    obtain rfl := name_of_named h.1 (by simp [CalSym])
    exact ⟨c, rfl, h.2⟩
  · cases h

theorem decodeQuery_parts {name : QName} {attrs : List (QName × String)} {children : List Node}
    (hroot : ¬ (!(name.space == nsCal && name.loc == "calendar-query")) = true) {d : DataReq} (hd : decPropReq children = .ok d)
    {c : Node} (hf : pick "filter" children = [el "filter" [] [c]]) {cf : CompFilter} (hc : readCompFilter c = some cf) :
    decodeQuery (.elem name attrs children) = .ok ⟨d, cf⟩ := by
  have hcl : pick "comp-filter" [c] = [c] := by
    cases c with
    | elem q a k =>
      simp only [readCompFilter, read_inv] at hc
      simp [pick, hc.1.1.2]
    | text s => simp [readCompFilter] at hc
    | comment s => simp [readCompFilter] at hc
  -- a `do` block nested in a `match`: `ok_bind` does not reach inside, and unfolding `bind` evaluates it at once
  simp [decodeQuery, hroot, single, hf, el, checkNs, hcl, decCompFilter_of_read c cf hc, hd, bind, Except.bind, pure,
    Except.pure]

theorem decodeQuery_of_read (n : Node) (q : Query) (h : readQuery n = some q) : decodeQuery n = .ok q := by
  revert h
  fun_cases readQuery n with
  | case2 name hroot f =>
    -- the filter alone
    simp only [read_inv]
    rintro ⟨cf, hf, rfl⟩
    obtain ⟨c, rfl, hc⟩ := readFilter_some hf
    exact decodeQuery_parts hroot rfl rfl hc
  | case3 name hroot a f _ =>
    -- a property request, the filter
    simp only [read_inv]
    rintro ⟨d, hd, cf, hf, rfl⟩
    obtain ⟨c, rfl, hc⟩ := readFilter_some hf
    obtain ⟨hd, hal, _⟩ := propReq_of_read hd
    exact decodeQuery_parts hroot ((decPropReq_cons a rfl).trans hd) (by simp [pick, hal, el]) hc
  | case4 name hroot f tz _ htz =>
    -- the filter, a timezone (taken apart so that the decoder's two lookups below evaluate on the child list)
    simp only [read_inv]
    rintro ⟨cf, hf, rfl⟩
    obtain ⟨c, rfl, hc⟩ := readFilter_some hf
    obtain ⟨ta, tk, rfl⟩ := el_of_named htz (by simp [CalSym])
    exact decodeQuery_parts hroot rfl rfl hc
  | case6 name hroot a f tz htz =>
    -- a property request, the filter, a timezone
    simp only [read_inv]
    rintro ⟨d, hd, cf, hf, rfl⟩
    obtain ⟨c, rfl, hc⟩ := readFilter_some hf
    obtain ⟨ta, tk, rfl⟩ := el_of_named htz (by simp [CalSym])
    obtain ⟨hd, hal, _⟩ := propReq_of_read hd
    exact decodeQuery_parts hroot ((decPropReq_cons a rfl).trans hd) (by simp [pick, hal, el]) hc
  | _ => nofun

theorem readHref_some {unescape : String → Option String} {n : Node} {p : String} (h : readHref unescape n = some p) :
    ∃ cs, n = .elem ⟨nsDav, "href"⟩ [] cs ∧ unescape (chardata cs) = some p := by
  revert h
  fun_cases readHref unescape n with
  | case1 q cs hq =>
    obtain ⟨sp, l⟩ := q
    obtain ⟨rfl, rfl, -⟩ := hq
    exact fun h => ⟨cs, rfl, h⟩
  | _ => nofun

/-- `Named`: a run of DAV:href elements, so that the decoder's lookups see all of them or none -/
theorem hrefs_of_read {unescape : String → Option String} {l : List Node} {ps : List String}
    (h : l.mapM (readHref unescape) = some ps) : Named nsDav "href" l ∧ l.mapM (decHref unescape) = .ok ps :=
  ⟨mapM_all _ _ (fun _ _ hx => let ⟨c, e, _⟩ := readHref_some hx; ⟨[], c, e⟩) l ps h,
    mapM_agree _ _ _ (fun _ _ _ hx => by obtain ⟨c, rfl, hu⟩ := readHref_some hx; simp [decHref, hu]) _ h⟩

theorem decodeMultiGet_of_read (unescape : String → Option String) (n : Node) (m : MultiGet)
    (h : readMultiGet unescape n = some m) : decodeMultiGet unescape n = .ok m := by
  revert h
  fun_cases readMultiGet unescape n with
  | case4 name hroot a rest _ _ =>
    -- a property request, then hrefs
    simp only [read_inv]
    rintro ⟨d, hd, hs, hh, rfl⟩
    obtain ⟨hd, _, hah⟩ := propReq_of_read hd
    obtain ⟨hn, hdec⟩ := hrefs_of_read hh
    have hnp : rest.filter (·.isElem nsDav "prop") = [] := by rw [hn.filter_isElem, if_neg (by simp)]
    simp [decodeMultiGet, hroot, hah, hn.filter_isElem, hdec, decPropReq_cons a hnp, hd]
  | case5 name hroot a rest _ =>
    -- hrefs only
    simp only [read_inv]
    rintro ⟨hs, hh, rfl⟩
    obtain ⟨hn, hdec⟩ := hrefs_of_read hh
    simp [decodeMultiGet, hroot, hn.filter_isElem, hdec, decPropReq]
  | _ => nofun

end GoWebdav.Lemmas.CaldavAgree
