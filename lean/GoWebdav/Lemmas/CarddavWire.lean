import GoWebdav.Props.C09
import GoWebdav.Lemmas.Xml
/-!
Helper lemmas for C09: the element trees the client writes.  The `enc*` functions refuse some values; for the values
a caller can express (`Paramok`, `PFok`, `Expressible`) they return `paramNode`, `propNode`, `queryNode`.
-/
namespace GoWebdav.Lemmas.CarddavWire
open GoWebdav GoWebdav.Std.Xml GoWebdav.Impl.CarddavWire GoWebdav.Generated GoWebdav.Props.C09 GoWebdav.Lemmas.Xml

def pick (loc : String) (cs : List Node) : List Node := cs.filter (·.localIs loc)

@[simp] theorem pick_nil (loc : String) : pick loc [] = [] := rfl

theorem named_optTM (t : Option TextMatch) : Named nsCard "text-match" (optTM t) := by
  cases t
  · exact .nil
  · exact .one _ _

theorem pick_optTM (loc : String) (t : Option TextMatch) : pick loc (optTM t) = if "text-match" = loc then optTM t else [] :=
  (named_optTM t).filter_localIs loc

theorem named_textMatches (ts : List TextMatch) : Named nsCard "text-match" (ts.map encTextMatch) :=
  .map _ (fun _ => ⟨_, _, rfl⟩) ts

def paramNode (p : ParamFilter) : Node :=
  el "param-filter" [att "name" p.name] (indNodes p.isNotDefined ++ optTM p.textMatch)

theorem encParamFilter_ok (p : ParamFilter) (h : Paramok p) : encParamFilter p = .ok (paramNode p) := by
  have : ¬ (p.isNotDefined = true ∧ p.textMatch.isSome = true) := by
    intro ⟨h1, h2⟩; rw [h.1 h1] at h2; cases h2
  simp [encParamFilter, paramNode, this]

theorem named_paramNodes (ps : List ParamFilter) : Named nsCard "param-filter" (ps.map paramNode) :=
  .map _ (fun _ => ⟨_, _, rfl⟩) ps

def propNode (p : PropFilter) : Node :=
  el "prop-filter" ([att "name" p.name] ++ atOpt "test" p.test)
    (indNodes p.isNotDefined ++ p.textMatches.map encTextMatch ++ p.params.map paramNode)

theorem encPropFilter_ok (p : PropFilter) (h : PFok p) : encPropFilter p = .ok (propNode p) := by
  obtain ⟨_, hind, _, hpar⟩ := h
  have hm : p.params.mapM encParamFilter = .ok (p.params.map paramNode) :=
    mapM_ok _ _ _ (fun x hx => encParamFilter_ok x (hpar x hx))
  have hc : ¬ (p.isNotDefined = true ∧ ((!p.textMatches.isEmpty) = true ∨ (!p.params.isEmpty) = true)) := by
    intro ⟨h1, h2⟩
    obtain ⟨ht, hp⟩ := hind h1
    simp [ht, hp] at h2
  simp only [encPropFilter, propNode, hc, if_false, hm]

def queryNode (q : Query) : Node :=
  el "addressbook-query" []
    ([encPropReq q.allProp q.props, el "filter" (atOpt "test" q.filterTest) (q.propFilters.map propNode)] ++ encLimit q.limit)

theorem encodeQuery_ok (q : Query) (h : Expressible q) : encodeQuery q = .ok (queryNode q) := by
  have hm : q.propFilters.mapM encPropFilter = .ok (q.propFilters.map propNode) :=
    mapM_ok _ _ _ (fun x hx => encPropFilter_ok x (h.2 x hx))
  simp only [encodeQuery, queryNode, hm]

end GoWebdav.Lemmas.CarddavWire
