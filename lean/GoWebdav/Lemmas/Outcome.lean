import GoWebdav.Lemmas.Webdav
/-!
What a request can do to the tree, found by going through the exits of each handler (`step_outcome`; `fun_cases h`
gives the exits of `h` numbered in the order its definition has them, each with what has been tested by then, and only
those that change the tree need a line).  That the tree stays well formed, that a failed request leaves it alone and
that nothing outside the addressed subtrees changes are then facts about the seven outcomes, not about the handlers.
(The declarations continue namespace `Lemmas.Webdav`.)
-/
namespace GoWebdav.Lemmas.Webdav
open GoWebdav GoWebdav.Std.Path GoWebdav.Std.Posix GoWebdav.Impl.Path GoWebdav.Impl.Webdav

/-- The tree is handed back, or changed in one of six ways, each with as much of what the handler has checked by then
    as the facts about outcomes use.
    For COPY / MOVE `t1` is the tree the transfer works on: `t`, with an existing destination removed.  `noParent` is
    the 409 of a transfer whose first step fails; Go has removed the destination by then, so the tree handed back is `t1`.
    `putFault` is the PUT whose body breaks off after `os.Create`: the error path removes the file. -/
inductive Outcome (t : FS) (r : Request) : FS × Response → Prop
  | kept (resp : Response) : Outcome t r (t, resp)
  | written (p : FPath) (c : Bytes) (resp : Response) : localPath [] r.path = .ok p → lookup t p ≠ some .dir →
      parentOK t p = true → resp.status < 400 → Outcome t r (set t p (.file c), resp)
  | putFault (p : FPath) (resp : Response) : r.method = "PUT" → r.fault.isSome = true → localPath [] r.path = .ok p →
      lookup t p ≠ some .dir → Outcome t r (removeAll t p, resp)
  | deleted (p : FPath) (resp : Response) : localPath [] r.path = .ok p → resp.status < 400 → Outcome t r (removeAll t p, resp)
  | collection (p : FPath) (resp : Response) : localPath [] r.path = .ok p → parentOK t p = true → resp.status < 400 →
      Outcome t r (set t p .dir, resp)
  | noParent (d : Bytes) (dst : FPath) (t1 : FS) (resp : Response) : r.dest = .path d → localPath [] d = .ok dst →
      (t1 = t ∨ t1 = removeAll t dst) → parentOK t1 dst = false → Outcome t r (t1, resp)
  | transferred (src : FPath) (d : Bytes) (dst : FPath) (t1 t2 : FS) (resp : Response) :
      localPath [] r.path = .ok src → r.dest = .path d → localPath [] d = .ok dst →
      (t1 = t ∨ t1 = removeAll t dst) → lookup t1 dst = none → parentOK t1 dst = true →
      (t2 = removeAll (graft t1 src dst) src ∨ t2 = graft t1 src dst ∨ t2 = set t1 dst .dir) → resp.status < 400 →
      Outcome t r (t2, resp)

theorem put_outcome (t : FS) (r : Request) (hm : r.method = "PUT") : Outcome t r (put t r) := by
  fun_cases put t r with
  | case6 p hp fi hdir _ _ hf => exact .putFault p _ hm (readBody_error hf) hp hdir
  | case7 p hp fi hdir _ hpar c => exact .written p c _ hp hdir (by simpa using hpar) (by simp only; split <;> decide)
  | _ => exact .kept _

theorem delete_outcome (t : FS) (r : Request) : Outcome t r (delete t r) := by
  fun_cases delete t r with
  | case5 p hp => exact .deleted p _ hp (by decide)
  | _ => exact .kept _

theorem mkcol_outcome (t : FS) (r : Request) : Outcome t r (mkcol t r) := by
  fun_cases mkcol t r with
  | case5 _ p hp _ hpar => exact .collection p _ hp (by simpa using hpar) (by decide)
  | _ => exact .kept _

/-- Stated with an equation because `fun_cases copyMove` introduces `t1` as a local definition: `rfl` proves `h` there. -/
theorem freed (t : FS) (dst : FPath) {t1 : FS} (h : t1 = if (lookup t dst).isSome then removeAll t dst else t) :
    (t1 = t ∨ t1 = removeAll t dst) ∧ lookup t1 dst = none := by
  subst h
  split
  · exact ⟨.inr rfl, lookup_removeAll_self t dst⟩
  · exact ⟨.inl rfl, Option.not_isSome_iff_eq_none.mp ‹_›⟩

theorem copyMove_outcome (t : FS) (r : Request) (isMove : Bool) (d : Bytes) (rec ow : Bool) (hd : r.dest = .path d) :
    Outcome t r (copyMove t isMove r.path d rec ow) := by
  -- the binders of the two last exits: src hsrc dst hdst e hl hov dstExists hpre t1 hpar (t2)
  fun_cases copyMove t isMove r.path d rec ow with
  | case6 src _ dst hdst _ _ _ _ _ t1 hpar => exact .noParent d dst t1 _ hd hdst (freed t dst rfl).1 (by simpa using hpar)
  | case7 src hsrc dst hdst e _ _ _ _ t1 hpar t2 =>
    obtain ⟨hfrom, hfree⟩ := freed t dst (t1 := t1) rfl
    refine .transferred src d dst t1 t2 _ hsrc hd hdst hfrom hfree (by simpa using hpar) ?_ (by simp only; split <;> decide)
    unfold t2
    cases isMove with
    | true => exact .inl rfl
    | false =>
      cases (rec || !isDir e) with
      | true => exact .inr (.inl rfl)
      | false => exact .inr (.inr rfl)
  | _ => exact .kept _

theorem copyMoveHandler_outcome (t : FS) (r : Request) : Outcome t r (copyMoveHandler t r) := by
  rcases copyMoveHandler_cases r with ⟨_, _, h⟩ | ⟨d, hd, _, _, _, _, h⟩ <;> rw [h]
  · exact .kept _
  · exact copyMove_outcome t r _ d _ _ hd

theorem step_outcome (t : FS) (r : Request) : Outcome t r (step t r) := by
  obtain ⟨_, h, he⟩ := step_handler r
  rw [he]
  cases h with
  | put hm => exact put_outcome t r hm
  | delete => exact delete_outcome t r
  | mkcol => exact mkcol_outcome t r
  | copyMove => exact copyMoveHandler_outcome t r
  | _ => exact .kept _

theorem wf_outcome {t : FS} {r : Request} {out : FS × Response} (hwf : WF t) (h : Outcome t r out) : WF out.1 := by
  have hfreed : ∀ {t1 : FS} {dst : FPath}, t1 = t ∨ t1 = removeAll t dst → WF t1 := by
    rintro _ dst (rfl | rfl)
    · exact hwf
    · exact wf_removeAll t hwf dst
  cases h with
  | kept => exact hwf
  | written p c _ _ hdir hpar => exact wf_set t hwf p _ hpar (fun h => absurd h hdir)
  | putFault p => exact wf_removeAll t hwf p
  | deleted p => exact wf_removeAll t hwf p
  | collection p _ _ hpar => exact wf_set t hwf p _ hpar (fun _ => rfl)
  | noParent _ _ _ _ _ _ hfrom => exact hfreed hfrom
  | transferred src _ dst t1 _ _ _ _ _ hfrom hfree hpar ht2 =>
    have hg := wf_graft t1 (hfreed hfrom) src dst hfree hpar
    rcases ht2 with rfl | rfl | rfl
    · exact wf_removeAll _ hg src
    · exact hg
    · exact wf_set t1 (hfreed hfrom) dst _ hpar (fun _ => rfl)

end GoWebdav.Lemmas.Webdav
