import GoWebdav.Impl.ObjectWire
/-!
`WResp.get` on the shapes in which the servers build a property list: fixed entries, optional entries (`opt`), and
lists of these appended.  The four lemmas are `@[simp]`: the proofs of C10 and C05 look a property up by
`simp [calendarResp, …]` without naming them or unfolding `WResp.get`.
-/
namespace GoWebdav.Lemmas.ObjectWire
open GoWebdav.Impl.ObjectWire

@[simp] theorem get_nil (h name : String) : (⟨h, []⟩ : WResp).get name = none := rfl

@[simp] theorem get_cons (h : String) (x : String × PV) (rest : List (String × PV)) (name : String) :
    (⟨h, x :: rest⟩ : WResp).get name = if x.1 = name then some x.2 else (⟨h, rest⟩ : WResp).get name := by
  by_cases h : x.1 = name <;> simp [WResp.get, h]

@[simp] theorem get_append (h : String) (l₁ l₂ : List (String × PV)) (name : String) :
    (⟨h, l₁ ++ l₂⟩ : WResp).get name = ((⟨h, l₁⟩ : WResp).get name).or ((⟨h, l₂⟩ : WResp).get name) := by
  simp [WResp.get, List.find?_append, Option.map_or]

@[simp] theorem get_opt (h : String) (b : Bool) (x : String × PV) (name : String) :
    (⟨h, opt b x⟩ : WResp).get name = if b ∧ x.1 = name then some x.2 else none := by
  cases b <;> simp [opt]

end GoWebdav.Lemmas.ObjectWire
