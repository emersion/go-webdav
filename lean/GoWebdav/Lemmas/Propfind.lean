import GoWebdav.Spec.Propfind
namespace GoWebdav.Lemmas.Propfind
open GoWebdav.Impl.Propfind GoWebdav.Spec.Propfind

theorem flat_encodeProp (ps : List PropStat) (code : Nat) (it : Item) :
    (flat (encodeProp ps code it)).Perm (flat ps ++ [(code, it)]) := by
  fun_induction encodeProp ps code it with
  | case1 => simp [flat]
  | case2 p rest it =>
    simp only [flat, List.flatMap_cons, List.map_append, List.map_cons, List.map_nil, List.append_assoc]
    exact (List.perm_append_comm).append_left _
  | case3 p rest code it _ ih =>
    simp only [flat, List.flatMap_cons, List.append_assoc]
    exact ih.append_left _

theorem codes_encodeProp (ps : List PropStat) (code : Nat) (it : Item) :
    (encodeProp ps code it).map (·.code) =
      if code ∈ ps.map (·.code) then ps.map (·.code) else ps.map (·.code) ++ [code] := by
  fun_induction encodeProp ps code it with
  | case1 => simp
  | case2 p rest it => simp
  | case3 p rest code it h ih =>
    simp only [List.map_cons, ih, List.mem_cons, Ne.symm h, false_or]
    split <;> rfl

theorem flat_fold (items : List (Nat × Item)) (ps : List PropStat) :
    (flat (items.foldl (fun ps x => encodeProp ps x.1 x.2) ps)).Perm (flat ps ++ items) := by
  induction items generalizing ps with
  | nil => simp
  | cons x xs ih =>
    refine (ih _).trans ?_
    simpa using (flat_encodeProp ps x.1 x.2).append_right xs

theorem nodup_concat {α} {l : List α} {x : α} (h : l.Nodup) (hx : x ∉ l) : (l ++ [x]).Nodup :=
  List.nodup_append.mpr ⟨h, List.pairwise_singleton _ x, fun a ha b hb e => hx (by rwa [← List.mem_singleton.mp hb, ← e])⟩

/-- each status opens at most one propstat -/
theorem codes_fold (items : List (Nat × Item)) (ps : List PropStat) (h : (ps.map (·.code)).Nodup) :
    ((items.foldl (fun ps x => encodeProp ps x.1 x.2) ps).map (·.code)).Nodup := by
  induction items generalizing ps with
  | nil => exact h
  | cons x xs ih =>
    refine ih _ ?_
    rw [codes_encodeProp]
    split
    · exact h
    · rename_i hx
      exact nodup_concat h hx

theorem lookupAvail_isSome (a : Avail) (n : Name) : (lookupAvail a n).isSome = true ↔ n ∈ a.map (·.1) := by
  simp only [lookupAvail, Option.isSome_map, List.find?_isSome, beq_iff_eq, List.mem_map]

theorem lookupAvail_append (a b : Avail) (n : Name) :
    lookupAvail (a ++ b) n = (lookupAvail a n).or (lookupAvail b n) := by
  unfold lookupAvail
  rw [List.find?_append]
  cases a.find? (fun x => x.1 == n) <;> rfl

theorem lookup_withResourceType (a : Avail) (n : Name) : lookupAvail (withResourceType a) n = has a n := by
  unfold withResourceType has
  split
  · -- DAV:resourcetype is among the offered properties: `has` never reaches its fallback
    rename_i hs
    cases hl : lookupAvail a n with
    | some v => rfl
    | none =>
      have hn : n ≠ resourceType := by rintro rfl; simp [hl] at hs
      simp [hn]
  · rw [lookupAvail_append]
    cases lookupAvail a n with
    | some v => rfl
    | none =>
      by_cases hn : n = resourceType
      · simp [lookupAvail, hn]
      · simp [lookupAvail, hn, Ne.symm hn]

theorem itemFor_withResourceType (a : Avail) : itemFor (withResourceType a) = answerFor a := by
  funext n
  unfold itemFor answerFor
  rw [lookup_withResourceType]
  cases has a n with
  | none => rfl
  | some v => cases v <;> rfl

theorem names_withResourceType (a : Avail) : (withResourceType a).map (·.1) = names a := by
  unfold withResourceType names
  by_cases hs : (lookupAvail a resourceType).isSome = true <;> simp [hs]

/-- the three loops of `NewPropFindResponse` in terms of the specification's `names` and `answerFor` -/
theorem produced_withResourceType (a : Avail) (form : Form) :
    produced (withResourceType a) form =
      match form with
      | .propname => some ((names a).map fun n => (200, (n, none)))
      | .allprop => some ((names a).map (answerFor a))
      | .prop ns => some ((firstOccurrences [] ns).map (answerFor a))
      | .none => none := by
  cases form <;> simp [produced, ← names_withResourceType, itemFor_withResourceType, List.map_map, Function.comp_def]

theorem firstOccurrences_spec (seen l : List Name) :
    (firstOccurrences seen l).Nodup ∧ ∀ x, x ∈ firstOccurrences seen l ↔ (x ∈ l ∧ x ∉ seen) := by
  fun_induction firstOccurrences seen l with
  | case1 => simp
  | case2 seen n rest hn ih =>
    simp only [ih, List.mem_cons, true_and]
    exact fun x => ⟨fun ⟨h1, h2⟩ => ⟨.inr h1, h2⟩, fun ⟨h1, h2⟩ => ⟨h1.resolve_left fun e => h2 (e ▸ hn), h2⟩⟩
  | case3 seen n rest hn ih =>
    simp only [List.nodup_cons, ih, List.mem_cons, not_or, not_true_eq_false, false_and, and_false,
      not_false_eq_true, true_and]
    intro x
    by_cases hx : x = n <;> simp [hx, hn]

/-- answers built by mapping a duplicate-free name list, in whatever propstats `EncodeProp` puts them, account for
    exactly those names: the three forms of a PROPFIND are instances -/
theorem accounts_fold (ns : List Name) (hnd : ns.Nodup) (answer : Name → Nat × Item) (hans : ∀ n, (answer n).2.1 = n) :
    Accounts ns answer (flat ((ns.map answer).foldl (fun ps x => encodeProp ps x.1 x.2) [])) := by
  have hp : (flat ((ns.map answer).foldl (fun ps x => encodeProp ps x.1 x.2) [])).Perm (ns.map answer) := by
    simpa [flat] using flat_fold (ns.map answer) []
  have hnames : (ns.map answer).map (·.2.1) = ns := by
    rw [List.map_map]; exact (List.map_congr_left fun n _ => hans n).trans (List.map_id _)
  refine ⟨fun n hn => ⟨?_, hp.mem_iff.mpr (List.mem_map_of_mem hn)⟩, fun it hit => ?_⟩
  · rw [(hp.map _).count_eq, hnames, hnd.count, if_pos hn]
  · obtain ⟨n, hn, rfl⟩ := List.mem_map.mp (hp.mem_iff.mp hit)
    rw [hans n]; exact ⟨hn, rfl⟩

theorem accounts_congr_names {ns ns' : List Name} {answer : Name → Nat × Item} {l : List (Nat × Item)}
    (hmem : ∀ n, n ∈ ns ↔ n ∈ ns') (h : Accounts ns' answer l) : Accounts ns answer l :=
  ⟨fun n hn => h.1 n ((hmem n).mp hn), fun it hit => ⟨(hmem _).mpr (h.2 it hit).1, (h.2 it hit).2⟩⟩

end GoWebdav.Lemmas.Propfind
