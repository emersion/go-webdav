import Lean.Meta.Tactic.Simp.RegisterCommand
/-- Inversion of a strict reader: `simp only [readX, read_inv] at h` turns `h : readX n = some x`, a guard followed by
    a `do` block in `Option`, into the conjunction of the guard's tests and the block's steps. -/
register_simp_attr read_inv
