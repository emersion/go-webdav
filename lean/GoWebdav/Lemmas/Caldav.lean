import GoWebdav.Spec.Caldav
/-!
caldav/match.go against the RFC 4791 reading (`Spec.Caldav`). The interval test, the instance loop and the early-exit scans
are brought to closed form; the bodies of `match` and `matchCompFilter` are then sound given sound answers for the nested
filters (`gate_sound`, `childGate_sound`), which is all the mutual induction over filter trees (`matchF_sound`) needs.
-/
namespace GoWebdav.Lemmas.Caldav
open GoWebdav GoWebdav.Impl.Caldav GoWebdav.Spec.Caldav GoWebdav.Std

/-- Go's `intervalOverlaps` is the RFC 4791 §9.9 test -/
theorem intervalOverlaps_spec (rs re s e : Int) :
    intervalOverlaps rs re s e = (if s < e then lt rs e && gt re s else le rs s && gt re s) := by
  -- Go's first test is "the range ends at or before `s`"
  have hgt : gt re s = !(decide (re ≠ Z) && !decide (s < re)) := by unfold gt; by_cases h : re = Z <;> simp [h]
  fun_cases intervalOverlaps rs re s e with
  | case1 hended => rw [hgt, hended]; simp
  | case2 hnend hrs => rw [hgt, Bool.eq_false_iff.mpr hnend]; simp [lt, le, hrs]
  | case3 hnend hrs hse => rw [hgt, Bool.eq_false_iff.mpr hnend]; simp [lt, hrs, hse]
  | case4 hnend hrs hse => rw [hgt, Bool.eq_false_iff.mpr hnend]; simp [le, hrs, hse, ← Int.not_lt]

theorem intervalOverlaps_eq_overlapAt (rs re s e : Int) :
    intervalOverlaps rs re s e = overlapAt rs re s (if e > s then e - s else 0) := by
  rw [intervalOverlaps_spec, overlapAt]
  by_cases h : s < e
  · rw [if_pos h, if_pos h, if_pos (by omega), show s + (e - s) = e by omega]
  · rw [if_neg h, if_neg h, if_neg (Int.lt_irrefl 0)]

theorem intervalOverlaps_at (rs re t dur : Int) : intervalOverlaps rs re t (t + dur) = overlapAt rs re t dur := by
  rw [intervalOverlaps_spec, overlapAt]
  by_cases h : 0 < dur
  · rw [if_pos (by omega), if_pos h]
  · rw [if_neg (by omega), if_neg h]

theorem overlapTable_eq_overlapAt (rs re s : Int) (isDate : Bool) (es : EndSpec)
    (hes : es ≠ .dtend none ∧ es ≠ .duration none) :
    overlapTable rs re s isDate es = overlapAt rs re s (durationOf s isDate es) := by
  unfold overlapTable durationOf overlapAt
  match es, hes with
  | .dtend (some e), _ => by_cases h : s < e <;> simp [h, show s + (e - s) = e by omega]
  | .duration (some d), _ => by_cases h : 0 < d <;> simp [h]
  | .none, _ => cases isDate <;> simp
  | .dtend none, h => exact absurd rfl h.1
  | .duration none, h => exact absurd rfl h.2

theorem dateTimeEnd_cases (recur : Recur) (s : Int) (isDate : Bool) (es : EndSpec) :
    (es = .dtend none ∨ es = .duration none) ∧ dateTimeEnd ⟨recur, some (some s, isDate), es⟩ = .error .parse ∨
    (es ≠ .dtend none ∧ es ≠ .duration none) ∧ ∃ e, dateTimeEnd ⟨recur, some (some s, isDate), es⟩ = .ok e ∧
      (if e > s then e - s else 0) = durationOf s isDate es := by
  match es with
  | .dtend (some e) => exact .inr ⟨by simp, e, rfl, rfl⟩
  | .duration (some d) =>
    refine .inr ⟨by simp, s + d, rfl, ?_⟩
    simp only [durationOf]; split <;> split <;> omega
  | .none =>
    refine .inr ⟨by simp, _, rfl, ?_⟩
    cases isDate <;> simp only [durationOf, if_true, if_false, Bool.false_eq_true] <;> split <;> omega
  | .dtend none => exact .inl ⟨.inl rfl, rfl⟩
  | .duration none => exact .inl ⟨.inr rfl, rfl⟩

/-- if the implementation answers, the answer is the specification's; an error is sound for anything -/
def Sound (r : Except Err Bool) (b : Bool) : Prop := ∀ x, r = .ok x → x = b

theorem sound_ok (b : Bool) : Sound (.ok b) b := by intro x h; cases h; rfl
theorem sound_error (e : Err) (b : Bool) : Sound (.error e) b := by intro x h; cases h

theorem sound_unless (p : Prop) [Decidable p] (e : Err) (b : Bool) : Sound (if p then .error e else .ok b) b := by
  split
  · exact sound_error e b
  · exact sound_ok b

theorem instances_ge (first step : Int) (hs : 0 ≤ step) (n : Nat) : ∀ t ∈ instances first step n, first ≤ t := by
  induction n generalizing first with
  | zero => intro t ht; cases ht
  | succ n ih =>
    intro t ht
    rcases List.mem_cons.mp ht with rfl | ht
    · exact Int.le_refl _
    · have := ih (first + step) t ht; omega

theorem instances_ascending (first step : Int) (hs : 0 ≤ step) (n : Nat) :
    (instances first step n).Pairwise (· ≤ ·) := by
  induction n generalizing first with
  | zero => exact .nil
  | succ n ih =>
    refine .cons (fun t ht => ?_) (ih _)
    have := instances_ge (first + step) step hs n t ht; omega

theorem overlapAt_of_ended {re t : Int} (h1 : re ≠ Z) (h2 : re ≤ t) (rs dur : Int) : overlapAt rs re t dur = false := by
  have : gt re t = false := by unfold gt; simp [h1]; omega
  unfold overlapAt; split <;> simp [this]

theorem instanceLoop_eq_any (rs re dur : Int) (l : List Int) (hl : l.Pairwise (· ≤ ·)) :
    instanceLoop rs re dur l = l.any (fun t => overlapAt rs re t dur) := by
  fun_induction instanceLoop rs re dur l with
  | case1 => rfl
  | case2 t rest hended =>
    -- the range has ended before `t`, hence before every later instance
    simp only [Bool.and_eq_true, Bool.not_eq_true', decide_eq_true_eq, decide_eq_false_iff_not, Int.not_lt] at hended
    refine (List.any_eq_false.mpr fun t' ht' => ?_).symm
    have : t ≤ t' := by
      rcases List.mem_cons.mp ht' with rfl | h
      · exact Int.le_refl _
      · exact (List.pairwise_cons.mp hl).1 t' h
    simp [overlapAt_of_ended hended.1 (Int.le_trans hended.2 this)]
  | case3 t rest _ hov => rw [List.any_cons, ← intervalOverlaps_at, hov]; rfl
  | case4 t rest _ hov ih =>
    rw [List.any_cons, ← intervalOverlaps_at, Bool.eq_false_iff.mpr hov, ih (List.pairwise_cons.mp hl).2]; rfl

theorem timeRange_vevent (rs re s : Int) (isDate : Bool) (es : EndSpec) (recur : Recur) (props : List IProp)
    (ch : List Component) (hstep : ∀ first step count, recur = .rule first step count → 0 ≤ step) :
    matchCompTimeRange rs re (.mk "VEVENT" props ⟨recur, some (some s, isDate), es⟩ ch) =
      if recur = .err ∨ es = .dtend none ∨ es = .duration none then .error .parse
      else .ok (rangeHolds rs re (.mk "VEVENT" props ⟨recur, some (some s, isDate), es⟩ ch)) := by
  unfold matchCompTimeRange rangeHolds
  simp only [Component.timing, Component.name, dateTimeStart, if_true, ne_eq, not_true_eq_false, if_false]
  rcases dateTimeEnd_cases recur s isDate es with ⟨hbad, he⟩ | ⟨hes, e, he, hdur⟩
  · rw [he, if_pos (.inr hbad)]
    cases recur <;> rfl
  · rw [he]
    cases recur with
    | err => rfl
    | none =>
      rw [if_neg (by simp [hes])]
      simp only [intervalOverlaps_eq_overlapAt, hdur, overlapTable_eq_overlapAt rs re s isDate es hes]
    | rule first step count =>
      rw [if_neg (by simp [hes])]
      simp only [hdur, instanceLoop_eq_any rs re _ _ (instances_ascending first step (hstep _ _ _ rfl) count),
        hes.1, hes.2, not_false_eq_true, decide_true, Bool.true_and]

theorem timeRange_other {name : String} (hn : name ≠ "VEVENT") (rs re : Int) (props : List IProp) (t : Timing)
    (ch : List Component) (hstep : ∀ first step count, t.recur = .rule first step count → 0 ≤ step) :
    matchCompTimeRange rs re (.mk name props t ch) =
      if t.recur = .err then .error .parse else .ok (rangeHolds rs re (.mk name props t ch)) := by
  unfold matchCompTimeRange rangeHolds
  simp only [Component.timing, Component.name, hn, if_false, ne_eq, not_false_eq_true, if_true]
  cases hr : t.recur with
  | err => rfl
  | none => rfl
  | rule first step count =>
    simp only [instanceLoop_eq_any rs re 0 _ (instances_ascending first step (hstep _ _ _ hr) count)]
    rfl

theorem timeRange_sound (rs re : Int) (c : Component) (hwf : localWF c = true) :
    Sound (matchCompTimeRange rs re c) (rangeHolds rs re c) := by
  obtain ⟨name, props, ⟨recur, dtstart, es⟩, ch⟩ := c
  simp only [localWF, Component.name, Component.timing, Bool.and_eq_true, Bool.or_eq_true] at hwf
  have hstep : ∀ first step count, recur = .rule first step count → 0 ≤ step := by
    rintro first step count rfl; simpa using hwf.2
  by_cases hn : name = "VEVENT"
  · subst hn
    match dtstart, hwf.1 with
    | none, h => simp at h
    | some (none, _), _ => unfold matchCompTimeRange; cases recur <;> exact sound_error _ _
    | some (some s, isDate), _ =>
      rw [timeRange_vevent rs re s isDate es recur props ch hstep]
      exact sound_unless _ _ _
  · rw [timeRange_other hn rs re props _ ch hstep]
    exact sound_unless _ _ _

theorem allScan_sound {l : List (Except Err Bool)} {s : List Bool} (h : Forall2 Sound l s) :
    Sound (allScan l) (s.all id) := by
  -- the cases: no answers left, an error, a `false` (the scan stops), a `true` (it goes on)
  fun_induction allScan l generalizing s with
  | case1 => cases h; exact sound_ok true
  | case2 e rest => exact sound_error _ _
  | case3 rest => cases h with | cons hrb _ => rw [← hrb false rfl]; exact sound_ok false
  | case4 rest ih => cases h with | cons hrb hrest => rw [List.all_cons, ← hrb true rfl]; exact ih hrest

theorem anyScan_sound {l : List (Except Err Bool)} {s : List Bool} (h : Forall2 Sound l s) :
    Sound (anyScan l) (s.any id) := by
  -- as above with `true` and `false` exchanged
  fun_induction anyScan l generalizing s with
  | case1 => cases h; exact sound_ok false
  | case2 e rest => exact sound_error _ _
  | case3 rest => cases h with | cons hrb _ => rw [← hrb true rfl]; exact sound_ok true
  | case4 rest ih => cases h with | cons hrb hrest => rw [List.any_cons, ← hrb false rfl]; exact ih hrest

theorem matchTextMatch_eq (t : TextMatch) (v : String) : matchTextMatch t v = textHolds t v := by
  unfold matchTextMatch textHolds; cases t.negate <;> simp

theorem matchParamFilter_eq (f : ParamFilter) (p : IProp) : matchParamFilter f p = paramHolds f p := by
  unfold matchParamFilter paramHolds
  cases paramValues p f.name with
  | nil => rfl
  | cons v vs =>
    cases hi : f.isNotDefined <;> cases f.textMatch <;> simp [matchTextMatch_eq]

theorem matchPropTimeRange_sound (rs re : Int) (p : IProp) :
    Sound (matchPropTimeRange rs re p) (match p.time with | some t => le rs t && gt re t | none => false) := by
  unfold matchPropTimeRange
  cases p.time with
  | none => exact sound_error _ _
  | some t =>
    simp only [intervalOverlaps_spec, Int.lt_irrefl, if_false]
    exact sound_ok _

theorem matchPropFilter_sound (f : PropFilter) (c : Component) : Sound (matchPropFilter f c) (propHolds f c) := by
  unfold matchPropFilter propHolds
  cases getProp c.props f.name with
  | none => exact sound_ok _
  | some p =>
    simp only [matchParamFilter_eq, matchTextMatch_eq]
    cases f.isNotDefined
    · cases f.paramFilters.all (paramHolds · p)
      · exact sound_ok false
      · cases hasRange f.start f.end_
        · cases f.textMatch <;> exact sound_ok _
        · exact matchPropTimeRange_sound _ _ _
    · exact sound_ok false

theorem wf_local (c : Component) (h : wf c = true) : localWF c = true := by
  obtain ⟨n, p, t, ch⟩ := c
  simp only [wf, Bool.and_eq_true] at h; exact h.1

theorem wfL_mem (l : List Component) (h : wfL l = true) : ∀ c ∈ l, wf c = true := by
  induction l with
  | nil => intro c hc; cases hc
  | cons a as ih =>
    simp only [wfL, Bool.and_eq_true] at h
    intro c hc
    rcases List.mem_cons.mp hc with rfl | hc
    · exact h.1
    · exact ih h.2 c hc

theorem wf_children (c : Component) (h : wf c = true) : ∀ ch ∈ c.children, wf ch = true := by
  obtain ⟨n, p, t, ch⟩ := c
  simp only [wf, Bool.and_eq_true] at h
  exact wfL_mem ch h.2

theorem holdsF_ind (cf : CompFilter) (c : Component) (h : cf.isNotDefined = true) :
    holdsF cf c = decide (c.name ≠ cf.name) := by
  obtain ⟨n, i, s, e, p, k⟩ := cf
  simp only [CompFilter.isNotDefined] at h
  unfold holdsF
  simp only [h, if_true, CompFilter.name]
  -- the two sides differ in the `Decidable` instance only
  congr

theorem gate_sound (name : String) (ind : Bool) (s e : Int) (props : List PropFilter) (comps : List CompFilter)
    (c : Component) (hwf : localWF c = true) {subs : List (Except Err Bool)}
    (hsubs : Forall2 Sound subs (holdsSubs comps c)) :
    Sound (gate name ind s e props c subs) (holdsF (.mk name ind s e props comps) c) := by
  unfold gate holdsF
  by_cases hn : c.name = name
  · cases ind
    · have htr : Forall2 Sound (if hasRange s e then [matchCompTimeRange s e c] else [])
          (if hasRange s e then [rangeHolds s e c] else []) := by
        split
        · exact .cons (timeRange_sound s e c hwf) .nil
        · exact .nil
      have := allScan_sound ((htr.append hsubs).append
        (Forall2.map props (matchPropFilter · c) (propHolds · c) fun pf _ => matchPropFilter_sound pf c))
      -- the same three conjunctions, associated differently
      revert this
      cases hasRange s e <;> simp [hn, List.all_append, Bool.and_assoc]
    · simpa [hn] using sound_ok false
  · cases ind <;> simpa [hn] using sound_ok _

theorem childGate_sound (cf : CompFilter) (children : List Component) {m : Component → Except Err Bool}
    (h : ∀ ch ∈ children, Sound (m ch) (holdsF cf ch)) :
    Sound (childGate cf.isNotDefined (children.map m))
      (if cf.isNotDefined then children.all (fun ch => ch.name ≠ cf.name) else children.any (holdsF cf)) := by
  have hmap := Forall2.map children m (holdsF cf) h
  unfold childGate
  cases hi : cf.isNotDefined
  · simpa [List.any_map] using anyScan_sound hmap
  · have heq : (children.map (holdsF cf)).all id = children.all (fun ch => decide (ch.name ≠ cf.name)) := by
      rw [List.all_map]; congr 1; funext ch; simp [holdsF_ind cf ch hi]
    simpa [heq] using allScan_sound hmap

mutual
theorem matchF_sound : ∀ (f : CompFilter) (c : Component), wf c = true → Sound (matchF f c) (holdsF f c)
  | .mk name ind s e props comps, c, hwf => by
    unfold matchF
    exact gate_sound name ind s e props comps c (wf_local c hwf) (matchSubs_sound comps c hwf)
theorem matchSubs_sound : ∀ (l : List CompFilter) (c : Component), wf c = true →
    Forall2 Sound (matchSubs l c) (holdsSubs l c)
  | [], _, _ => by unfold matchSubs holdsSubs; exact .nil
  | cf :: rest, c, hwf => by
    unfold matchSubs holdsSubs
    exact .cons (childGate_sound cf c.children fun ch hch => matchF_sound cf ch (wf_children c hwf ch hch))
      (matchSubs_sound rest c hwf)
end

theorem filterLoop_sound (f : CompFilter) (p : String × Component → Bool) (cos out : List (String × Component))
    (hs : ∀ co ∈ cos, Sound (matchF f co.2) (p co)) (h : filterLoop f cos = .ok out) : out = cos.filter p := by
  fun_induction filterLoop f cos generalizing out with
  | case1 => cases h; rfl
  | case2 co rest e hm => cases h
  | case3 co rest hm ih =>
    obtain ⟨hco, hrest⟩ := List.forall_mem_cons.mp hs
    rw [List.filter_cons, ← hco false hm]
    exact ih out hrest h
  | case4 co rest hm ih =>
    obtain ⟨hco, hrest⟩ := List.forall_mem_cons.mp hs
    rw [List.filter_cons, ← hco true hm]
    cases hr : filterLoop f rest with
    | error e => rw [hr] at h; cases h
    | ok out' => rw [hr] at h; cases h; rw [ih out' hrest hr]; rfl

end GoWebdav.Lemmas.Caldav
