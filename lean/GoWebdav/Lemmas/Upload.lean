import GoWebdav.Impl.Upload
namespace GoWebdav.Lemmas.Upload
open GoWebdav.Impl.Upload

def cRank : Caller → Nat | .writing n => n + 2 | .closed => 1 | .returned _ => 0
def tRank : Transport → Nat | .reading _ b => b + 3 | .stalled => 2 | _ => 0
def gRank : Gor → Nat | .inDo => 2 | .sending _ => 1 | .exited => 0
def bRank : Bool → Nat | true => 0 | false => 1
/-- every step lowers one of the four summands and raises none -/
def rank (s : State) : Nat := cRank s.c + tRank s.t + gRank s.g + bRank s.readerClosed

theorem step_decreases {s s' : State} (h : Step s s') : rank s' < rank s := by
  cases h <;> simp only [rank, cRank, tRank, gRank, bRank] <;> omega

theorem terminates (s : State) : Acc (fun a b => Step b a) s :=
  (Subrelation.wf step_decreases (measure rank).wf).apply s

def result : Caller → Option Bool | .returned ok => some ok | _ => none

/-- The outcome of `Do` is in exactly one place: not yet produced, held by the goroutine, in the channel, or taken
    by the caller.  `fin` is `Transport.finished`, `ret` the caller's `result`. -/
def Held (fin d ret : Option Bool) : Gor → Prop
  | .inDo => d = none ∧ ret = none
  | .sending ok => fin = some ok ∧ d = none ∧ ret = none
  | .exited => ∃ ok, fin = some ok ∧ (d = some ok ∧ ret = none ∨ d = none ∧ ret = some ok)

theorem Held.of_unfinished {fin d ret g} (h : Held none d ret g) : Held fin d ret g := by
  cases g with
  | inDo => exact h
  | sending => cases h.1
  | exited => obtain ⟨_, h, _⟩ := h; cases h

theorem Held.recv {fin ok g} (h : Held fin (some ok) none g) : Held fin none (some ok) g := by
  cases g with
  | inDo => cases h.1
  | sending => cases h.2.1
  | exited =>
    obtain ⟨k, hk, ⟨hd, _⟩ | ⟨hd, _⟩⟩ := h
    · cases hd; exact ⟨_, hk, .inr ⟨rfl, rfl⟩⟩
    · cases hd

/-- once the caller is past its writes the pipe's write end is closed (the server sees EOF); only a transport that
    has finished has closed the body; and `Held` -/
def Inv (s : State) : Prop :=
  (s.writerClosed = false → ∃ n, s.c = .writing n) ∧
  (s.readerClosed = true → s.t.finished.isSome) ∧
  Held s.t.finished s.done (result s.c) s.g

theorem inv_init (n : Nat) (p : Bool) (b : Nat) : Inv (init n p b) :=
  ⟨fun _ => ⟨n, rfl⟩, nofun, rfl, rfl⟩

theorem inv_step {s s' : State} (hi : Inv s) (h : Step s s') : Inv s' := by
  obtain ⟨hw, hr, hh⟩ := hi
  cases h with
  | consumeP | consume | writeErr => exact ⟨fun _ => ⟨_, rfl⟩, hr, hh⟩
  | close => exact ⟨nofun, hr, hh⟩
  | answerEOF | answer | drop | cancel => exact ⟨hw, fun _ => rfl, hh.of_unfinished⟩
  | stall => exact ⟨hw, hr, hh⟩
  | closeBody _ _ _ _ _ _ hf => exact ⟨hw, fun _ => by rw [hf]; rfl, hh⟩
  | doReturns _ _ _ _ _ _ hf => exact ⟨hw, hr, hf, hh⟩
  | send => exact ⟨hw, hr, _, hh.1, .inl ⟨rfl, hh.2.2⟩⟩
  | recv => exact ⟨fun h => (hw h).elim nofun, hr, hh.recv⟩

theorem inv_reachable {s0 s : State} (h0 : Inv s0) (h : Reachable s0 s) : Inv s := by
  induction h with
  | refl => exact h0
  | step _ hs ih => exact inv_step ih hs

theorem Inv.close_result {s : State} (hi : Inv s) (ok : Bool) (hc : s.c = .returned ok) :
    s.g = .exited ∧ s.t.finished = some ok := by
  obtain ⟨_, _, hh⟩ := hi
  rw [hc] at hh
  cases hg : s.g with
  | inDo => rw [hg] at hh; cases hh.2
  | sending k => rw [hg] at hh; cases hh.2.2
  | exited =>
    rw [hg] at hh
    obtain ⟨k, hk, ⟨_, hr⟩ | ⟨_, hr⟩⟩ := hh
    · cases hr
    · cases hr; exact ⟨rfl, hk⟩

theorem close_result {n b : Nat} {p : Bool} {s : State} (h : Reachable (init n p b) s) (ok : Bool) (hc : s.c = .returned ok) :
    s.g = .exited ∧ s.t.finished = some ok :=
  (inv_reachable (inv_init n p b) h).close_result ok hc

/-- once the transport has finished and closed the body, whoever is next can move -/
theorem tail_moves (c : Caller) (t : Transport) (g : Gor) (w : Bool) (d : Option Bool) (ok : Bool)
    (hf : t.finished = some ok) (hi : Inv ⟨c, t, g, true, w, d⟩) (hnf : ¬ Final ⟨c, t, g, true, w, d⟩) :
    ∃ s', Step ⟨c, t, g, true, w, d⟩ s' := by
  obtain ⟨_, _, hh⟩ := hi
  cases g with
  | inDo => exact ⟨_, .doReturns c t true w d ok hf⟩
  | sending k => cases hh.2.1; exact ⟨_, .send c t true w k⟩
  | exited =>
    cases c with
    | writing m => cases m with
      | zero => exact ⟨_, .close _ _ _ _ _⟩
      | succ m => exact ⟨_, .writeErr m _ _ _ _⟩
    | closed =>
      obtain ⟨k, _, ⟨hd, _⟩ | ⟨_, hr⟩⟩ := hh
      · cases hd; exact ⟨_, .recv _ _ _ _ k⟩
      · cases hr
    | returned k => exact absurd ⟨⟨k, rfl⟩, rfl, rfl⟩ hnf

theorem Inv.progress {s : State} (hi : Inv s) (hnf : ¬ Final s) : ∃ s', Step s s' := by
  obtain ⟨c, t, g, r, w, d⟩ := s
  have ⟨hw, hr, _⟩ := hi
  cases hf : t.finished with
  | some ok =>
    cases r with
    | false => exact ⟨_, .closeBody c t g w d ok hf⟩
    | true => exact tail_moves c t g w d ok hf hi hnf
  | none =>
    cases t with
    | answered | failed => cases hf
    | stalled => exact ⟨_, .cancel c g r w d⟩
    | reading pp bb =>
      cases pp with
      | false => exact ⟨_, .drop c bb g r w d⟩
      | true =>
        -- a patient server answers only after EOF, so progress must come from the caller: this is where `Close`
        -- closing the pipe before it waits matters
        cases r with
        | true => cases hr rfl
        | false =>
          cases c with
          | writing m => cases m with
            | zero => exact ⟨_, .close _ _ _ _ _⟩
            | succ m => exact ⟨_, .consumeP m bb g w d⟩
          | closed | returned =>
            cases w with
            | false => exact (hw rfl).elim nofun
            | true => exact ⟨_, .answerEOF _ true bb g false d true⟩

theorem deadlock_free {n b : Nat} {p : Bool} {s : State} (h : Reachable (init n p b) s) (hnf : ¬ Final s) : ∃ s', Step s s' :=
  (inv_reachable (inv_init n p b) h).progress hnf

end GoWebdav.Lemmas.Upload
