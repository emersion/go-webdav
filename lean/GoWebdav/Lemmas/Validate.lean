import GoWebdav.Spec.Validate
namespace GoWebdav.Lemmas.Validate
open GoWebdav.Impl.Validate GoWebdav.Spec.Validate

/-- `if s == "" { s = n }; if s != n { fail }`: what the loop does with a component type and with a UID
    (`""` = none seen yet) -/
def absorb (s n : String) : Option String :=
  if (if s = "" then n else s) = n then some (if s = "" then n else s) else none

/-- the closed form of the loop: it ends in the first name seen, provided all are that name -/
theorem foldlM_absorb (l : List String) (hl : ∀ n ∈ l, n ≠ "") (s s' : String) :
    l.foldlM absorb s = some s' ↔ s' = (if s = "" then l.head?.getD "" else s) ∧ ∀ n ∈ l, n = s' := by
  induction l generalizing s with
  | nil => by_cases hs : s = "" <;> simp [hs, eq_comm]
  | cons n l ih =>
    have hn : n ≠ "" := hl n (by simp)
    simp only [List.foldlM_cons, absorb, List.head?_cons, Option.getD_some, List.mem_cons, forall_eq_or_imp]
    generalize (if s = "" then n else s) = x
    by_cases h : x = n
    · subst h
      simp only [if_true, Option.bind_eq_bind, Option.bind_some, ih (fun m hm => hl m (List.mem_cons_of_mem _ hm)), hn,
        if_false]
      exact ⟨fun ⟨h1, h2⟩ => ⟨h1, h1.symm, h2⟩, fun ⟨h1, _, h2⟩ => ⟨h1, h2⟩⟩
    · simp only [h, if_false, Option.bind_eq_bind, Option.bind_none, reduceCtorEq, false_iff]
      rintro ⟨rfl, h2, _⟩; exact h h2.symm

theorem allEq_iff_head (l : List String) : AllEq l ↔ ∀ n ∈ l, n = l.head?.getD "" := by
  cases l with
  | nil => simp [AllEq]
  | cons a l =>
    simp only [AllEq, List.head?_cons, Option.getD_some]
    exact ⟨fun h n hn => h n hn a (by simp), fun h x hx y hy => (h x hx).trans (h y hy).symm⟩

/-- what one component does to the type seen so far, and to the UID seen so far -/
def typeStep (t n : String) : Option String := if n = vtimezone then some t else absorb t n
def uidStep (u : String) : Uid → Option String
  | .text s => if s = "" then some u else absorb u s
  | _ => some u

theorem foldlM_types_cons (t : String) (c : Comp) (cs : List Comp) :
    (types (c :: cs)).foldlM absorb t = (typeStep t c.name).bind fun t' => (types cs).foldlM absorb t' := by
  unfold typeStep
  by_cases htz : c.name = vtimezone <;> simp [types, htz]

theorem foldlM_uids_cons (u : String) (c : Comp) (cs : List Comp) :
    (uids (c :: cs)).foldlM absorb u = (uidStep u c.uid).bind fun u' => (uids cs).foldlM absorb u' := by
  obtain ⟨n, uid⟩ := c
  cases uid with
  | text s => by_cases hs : s = "" <;> simp [uids, uidStep, hs]
  | _ => rfl

theorem ite_empty_self (u : String) : (if u = "" then "" else u) = u := by
  by_cases h : u = "" <;> simp [h]

theorem absorb_pos {s n : String} (h : (if s = "" then n else s) = n) : absorb s n = some n := by
  unfold absorb; rw [if_pos h, h]

theorem absorb_neg {s n : String} (h : ¬ (if s = "" then n else s) = n) : absorb s n = none := if_neg h

/-- a VTIMEZONE only contributes its UID -/
theorem step_vtimezone (t u : String) (uid : Uid) :
    step (t, u) ⟨vtimezone, uid⟩ =
      if uid = .err then .error .uidErr else
      match uidStep u uid with
      | none => .error .uids
      | some u' => .ok (t, u') := by
  unfold step
  cases uid with
  | none => simp [Uid.asText, uidStep, ite_empty_self]
  | err => simp [Uid.asText]
  | text s =>
    by_cases hs : s = ""
    · simp [Uid.asText, uidStep, hs, ite_empty_self]
    · by_cases hus : (if u = "" then s else u) = s
      · simp [Uid.asText, uidStep, hs, hus, absorb_pos hus]
      · simp [Uid.asText, uidStep, hs, hus, absorb_neg hus]

/-- any other component first has its type absorbed; what it then does with its UID is what a VTIMEZONE does
    (stated with `step` itself, so that the UID half of the loop body is analysed once, above) -/
theorem step_type (t u : String) (c : Comp) :
    step (t, u) c =
      match typeStep t c.name with
      | none => .error .types
      | some t' => step (t', u) ⟨vtimezone, c.uid⟩ := by
  obtain ⟨n, uid⟩ := c
  unfold step typeStep
  by_cases htz : n = vtimezone
  · simp only [htz, ne_eq, not_true_eq_false, false_and, if_false, if_true]
  · by_cases htn : (if t = "" then n else t) = n
    · simp only [htz, htn, absorb_pos htn, ne_eq, not_false_eq_true, not_true_eq_false, and_false, false_and, if_false, if_true]
    · simp only [htz, htn, absorb_neg htn, ne_eq, not_false_eq_true, and_self, if_true, if_false]

/-- the loop runs two independent absorbers, one over the types and one over the UIDs -/
theorem loop_ok (cs : List Comp) (st r : String × String) :
    loop st cs = .ok r ↔
      (∀ c ∈ cs, c.uid ≠ .err) ∧ (types cs).foldlM absorb st.1 = some r.1 ∧ (uids cs).foldlM absorb st.2 = some r.2 := by
  induction cs generalizing st with
  | nil => simp [loop, types, uids, Prod.ext_iff]
  | cons c cs ih =>
    obtain ⟨t, u⟩ := st
    rw [foldlM_types_cons, foldlM_uids_cons, loop, step_type, List.forall_mem_cons]
    cases typeStep t c.name with
    | none => simp
    | some t' =>
      simp only [step_vtimezone]
      by_cases he : c.uid = .err
      · simp [he]
      · cases uidStep u c.uid <;> simp [he, ih]

theorem types_ne_empty {cs : List Comp} (hn : ∀ c ∈ cs, c.name ≠ "") : ∀ n ∈ types cs, n ≠ "" := by
  intro n h
  obtain ⟨c, hc, rfl⟩ := List.mem_map.mp h
  exact hn c (List.mem_filter.mp hc).1

theorem uids_ne_empty (cs : List Comp) : ∀ n ∈ uids cs, n ≠ "" := by
  intro n h
  obtain ⟨c, _, hc⟩ := List.mem_filterMap.mp h
  split at hc
  · split at hc
    · cases hc
    · cases hc; assumption
  · cases hc

end GoWebdav.Lemmas.Validate
