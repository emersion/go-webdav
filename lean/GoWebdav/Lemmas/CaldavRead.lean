import GoWebdav.Lemmas.CaldavWire
/-!
Helper lemmas for C08, client → wire: the strict RFC 4791 reader (`Spec.CaldavWire.read*`) reads what the encoder
writes, to the value that was encoded.

The strict reader sees a child list through its tag sequence (the content model, `seqOK`) and through
`filter`/`find? (named · loc)`.  Among CalDAV elements (`AllCal`) the latter are the decoder's `pick loc` (`Lemmas/CaldavXml`), so the runs
of the encoder's child lists serve here as they do for the decoder; and the tag sequence of such a list is a
concatenation of runs, which a content model consumes one pattern at a time.
-/
namespace GoWebdav.Lemmas.CaldavRead
open GoWebdav GoWebdav.Std.Xml GoWebdav.Std.Time GoWebdav.Impl.Caldav GoWebdav.Impl.CaldavWire GoWebdav.Spec.CaldavWire
open GoWebdav.Lemmas.CaldavWire GoWebdav.Lemmas.Xml

theorem allCal_params (ps : List ParamFilter) : AllCal (ps.map encParamFilter) := allCal_of_named (named_params ps)

theorem map_tag_of_named {l : String} {cs : List Node} (h : Named nsCal l cs) : cs.map tag = List.replicate cs.length l :=
  List.eq_replicate_iff.mpr ⟨by simp, fun t ht => by
    obtain ⟨n, hn, rfl⟩ := List.mem_map.mp ht
    obtain ⟨a, c, rfl⟩ := h n hn
    simp⟩

theorem head_ne {s t : String} {ts : List String} (h : s ∉ t :: ts) : (t == s) = false :=
  beq_eq_false_iff_ne.mpr fun e => h (by simp [e])

theorem dropWhile_run {s : String} {ts : List String} (h : s ∉ ts) (k : Nat) :
    (List.replicate k s ++ ts).dropWhile (· == s) = ts := by
  induction k with
  | zero =>
    cases ts with
    | nil => rfl
    | cons t ts => simp [head_ne h]
  | succ k ih => simpa [List.replicate_succ, List.dropWhile_cons] using ih

theorem seqOK_star {s : String} {ps : List Pat} {ts : List String} (h : s ∉ ts) (k : Nat) :
    seqOK (.star s :: ps) (List.replicate k s ++ ts) = seqOK ps ts := by
  rw [seqOK, dropWhile_run h]

theorem seqOK_opt {s : String} {ps : List Pat} {ts : List String} (h : s ∉ ts) {k : Nat} (hk : k ≤ 1) :
    seqOK (.opt s :: ps) (List.replicate k s ++ ts) = seqOK ps ts := by
  match k, hk with
  | 0, _ =>
    cases ts with
    | nil => rfl
    | cons t ts => simp [seqOK, head_ne h]
  | 1, _ => simp [seqOK]

theorem seqOK_one (s : String) (ps : List Pat) (ts : List String) :
    seqOK (.one s :: ps) (List.replicate 1 s ++ ts) = seqOK ps ts := by
  simp [seqOK]

/-- the tag sequence ends in `++ []` so that each run has the form `seqOK_star`, `seqOK_opt` and `seqOK_one` consume -/
theorem four_runs {l₁ l₂ l₃ l₄ : String} {r₁ r₂ r₃ r₄ cs : List Node} (h₁ : Named nsCal l₁ r₁)
    (h₂ : Named nsCal l₂ r₂) (h₃ : Named nsCal l₃ r₃) (h₄ : Named nsCal l₄ r₄) (hd : [l₁, l₂, l₃, l₄].Nodup)
    (h : r₁ ++ r₂ ++ r₃ ++ r₄ = cs) :
    AllCal cs ∧
      cs.map tag = List.replicate r₁.length l₁ ++ (List.replicate r₂.length l₂ ++
        (List.replicate r₃.length l₃ ++ (List.replicate r₄.length l₄ ++ []))) ∧
      pick l₁ cs = r₁ ∧ pick l₂ cs = r₂ ∧ pick l₃ cs = r₃ ∧ pick l₄ cs = r₄ :=
  ⟨h ▸ (((allCal_of_named h₁).append (allCal_of_named h₂)).append (allCal_of_named h₃)).append (allCal_of_named h₄), by
    simp [← h, map_tag_of_named h₁, map_tag_of_named h₂, map_tag_of_named h₃, map_tag_of_named h₄],
    pick_runs h₁ h₂ h₃ h₄ hd h⟩

theorem attrsOK_name (n : String) : attrsOK ["name"] [att "name" n] = true := by simp [attrsOK, att]
@[simp] theorem reqName_att (n : String) : reqName [att "name" n] = some n := by simp [reqName, attr, att]

theorem attrsOK_time (s e : Int) : attrsOK ["start", "end"] (timeAttr "start" s ++ timeAttr "end" e) = true := by
  unfold timeAttr attrsOK att
  by_cases hs : s = Z <;> by_cases he : e = Z <;> simp [hs, he]

theorem readTime_of_attr {attrs : List (QName × String)} {loc : String} {t : Int}
    (h : attr attrs loc = if t = Z then none else some (fmt t)) (ht : InRange t) :
    readTime attrs loc = some (if t = Z then none else some t) := by
  unfold readTime; rw [h]
  by_cases hz : t = Z <;> simp [hz, parse_fmt t ht]

theorem readTimeRange_enc (s e : Int) (hs : InRange s) (he : InRange e) (hne : ¬ (s = Z ∧ e = Z)) :
    readTimeRange (el "time-range" (timeAttr "start" s ++ timeAttr "end" e) []) = some (s, e) := by
  simp only [readTimeRange, el, named_elem, attrsOK_time, readTime_of_attr (attr_timeAttrs s e).1 hs,
    readTime_of_attr (attr_timeAttrs s e).2 he, beq_self_eq_true, Bool.and_self, Bool.not_true, Bool.false_eq_true, if_false,
    bind, Option.bind, pure]
  by_cases hs' : s = Z <;> by_cases he' : e = Z <;> simp_all

theorem readExpand_enc (s e : Int) (hs : InRange s) (he : InRange e) (hs' : s ≠ Z) (he' : e ≠ Z) :
    readExpand (el "expand" (timeAttr "start" s ++ timeAttr "end" e) []) = some (s, e) := by
  simp [readExpand, el, attrsOK_time, readTime_of_attr (attr_timeAttrs s e).1 hs, readTime_of_attr (attr_timeAttrs s e).2 he,
    hs', he']

theorem readTextMatch_enc (t : TextMatch) : readTextMatch (encTextMatch t) = some t := by
  obtain ⟨text, neg⟩ := t
  have ht : (textNodes text).all isText = true := by
    unfold textNodes; split <;> simp [isText]
  cases neg <;>
    simp [readTextMatch, encTextMatch, el, ht, negAttr, Generated.caldavNegateFormat, attrsOK, att, attr, chardata_textNodes]

theorem readParamFilter_enc (p : ParamFilter) (h : okParam p = true) : readParamFilter (encParamFilter p) = some p := by
  obtain ⟨name, i, tm⟩ := p
  simp only [readParamFilter, encParamFilter, el, named_elem, attrsOK_name, beq_self_eq_true, Bool.and_self, Bool.not_true,
    Bool.false_eq_true, if_false, reqName_att, bind, Option.bind, pure]
  cases i <;> cases tm
  · simp [ind, encTM]
  · next t => simp [ind, encTM, show named (encTextMatch t) "is-not-defined" = false from rfl, readTextMatch_enc]
  · simp [ind, encTM, el]
  · simp [okParam] at h

theorem optRange_of (cs : List Node) (hall : AllCal cs) (s e : Int) (hs : InRange s) (he : InRange e)
    (h : pick "time-range" cs = encTimeRange s e) : optRange cs = some (s, e) := by
  unfold optRange
  rw [find_named hall, h]
  unfold encTimeRange
  by_cases hz : s = Z ∧ e = Z
  · simp [hz]
  · simp [hz, readTimeRange_enc s e hs he hz]

theorem optTextMatch_of (cs : List Node) (hall : AllCal cs) (tm : Option TextMatch)
    (h : pick "text-match" cs = encTM tm) : optTextMatch cs = some tm := by
  unfold optTextMatch
  rw [find_named hall, h]
  cases tm <;> simp [encTM, readTextMatch_enc]

theorem not_indAlone {cs : List Node} (h : pick "is-not-defined" cs = []) :
    ¬ (cs.length = 1 ∧ cs.all (isEmptyEl · "is-not-defined") = true) := fun hc => by
  rw [(indAlone_iff cs).mp hc] at h; simp [pick_el] at h

theorem length_timeRange_le (s e : Int) : (encTimeRange s e).length ≤ 1 := by unfold encTimeRange; split <;> simp

theorem readPropFilter_enc (p : PropFilter) (h : okProp p = true) (hr : rfcProp p = true) :
    readPropFilter (encPropFilter p) = some p := by
  obtain ⟨name, i, s, e, tm, params⟩ := p
  simp only [okProp, Bool.and_eq_true, List.all_eq_true] at h
  obtain ⟨⟨⟨hs, he⟩, hps⟩, hex⟩ := h
  simp only [readPropFilter, encPropFilter, el, named_elem, attrsOK_name, beq_self_eq_true, Bool.and_self, Bool.not_true,
    Bool.false_eq_true, if_false, reqName_att, bind, Option.bind, pure]
  generalize hcs : ind i ++ encTimeRange s e ++ encTM tm ++ params.map encParamFilter = cs
  obtain ⟨hall, htags, p1, p2, p3, p4⟩ :=
    four_runs (named_ind i) (named_timeRange s e) (named_encTM tm) (named_params params) (by simp) hcs
  cases i
  · have hseq : (seqOK [.opt "time-range", .star "param-filter"] (cs.map tag) ||
        seqOK [.opt "text-match", .star "param-filter"] (cs.map tag)) = true := by
      rw [htags, Bool.or_eq_true]
      cases tm with
      | none =>
        left
        simp only [ind, encTM, Bool.false_eq_true, if_false, List.length_nil, List.replicate_zero, List.nil_append]
        rw [seqOK_opt (by simp) (length_timeRange_le s e), seqOK_star (by simp)]; rfl
      | some t =>
        have hz : s = Z ∧ e = Z := by simpa [rfcProp] using hr
        right
        simp only [ind, encTimeRange, hz, encTM, Bool.false_eq_true, if_false, and_self, if_true, List.length_nil,
          List.length_singleton, List.replicate_zero, List.nil_append]
        rw [seqOK_opt (by simp) (Nat.le_refl 1), seqOK_star (by simp)]; rfl
    simp only [not_indAlone p1, if_false, hseq, Bool.not_true, Bool.false_eq_true,
      optRange_of cs hall s e (inRange_of s hs) (inRange_of e he) p2, optTextMatch_of cs hall tm p3, filter_named hall, p4,
      mapM_map_some _ _ _ (fun x hx => readParamFilter_enc x (hps x hx))]
  · obtain ⟨⟨⟨rfl, rfl⟩, rfl⟩, rfl⟩ : ((s = Z ∧ e = Z) ∧ tm = none) ∧ params = [] := by simpa using hex
    exact if_pos ((indAlone_iff _).mpr (by simp [← hcs, ind, encTimeRange, encTM]))

mutual
theorem readCompFilter_enc : ∀ (f : CompFilter), okCF f = true → rfcCF f = true → readCompFilter (encCompFilter f) = some f
  | .mk name i s e props comps, h, hr => by
    simp only [okCF, Bool.and_eq_true, List.all_eq_true] at h
    simp only [rfcCF, Bool.and_eq_true, List.all_eq_true] at hr
    obtain ⟨⟨⟨⟨hs, he⟩, hps⟩, hcs'⟩, hex⟩ := h
    have ihc := readCompFilters_enc comps hcs' hr.2
    rw [readCompFilters_eq, filter_named (allCal_of_named (named_compFilters comps)), pick_named (named_compFilters comps),
      if_pos rfl] at ihc
    simp only [readCompFilter, encCompFilter, el, beq_self_eq_true, attrsOK_name, Bool.and_self, Bool.not_true,
      Bool.false_eq_true, if_false, reqName_att, bind, Option.bind, pure]
    generalize hcs : ind i ++ encTimeRange s e ++ props.map encPropFilter ++ encCompFilters comps = cs
    obtain ⟨hall, htags, p1, p2, p3, p4⟩ :=
      four_runs (named_ind i) (named_timeRange s e) (named_props props) (named_compFilters comps) (by simp) hcs
    cases i
    · have hseq : seqOK [.opt "time-range", .star "prop-filter", .star "comp-filter"] (cs.map tag) = true := by
        simp only [htags, ind, Bool.false_eq_true, if_false, List.length_nil, List.replicate_zero, List.nil_append]
        rw [seqOK_opt (by simp) (length_timeRange_le s e), seqOK_star (by simp), seqOK_star (by simp)]; rfl
      simp only [not_indAlone p1, if_false, hseq, Bool.not_true, Bool.false_eq_true,
        optRange_of cs hall s e (inRange_of s hs) (inRange_of e he) p2, filter_named hall, p3,
        mapM_map_some _ _ _ (fun x hx => readPropFilter_enc x (hps x hx) (hr.1 x hx)), readCompFilters_eq, p4, ihc]
    · obtain ⟨⟨⟨rfl, rfl⟩, rfl⟩, rfl⟩ : ((s = Z ∧ e = Z) ∧ props = []) ∧ comps = [] := by simpa using hex
      exact if_pos ((indAlone_iff _).mpr (by simp [← hcs, ind, encTimeRange, encCompFilters]))
theorem readCompFilters_enc : ∀ (fs : List CompFilter), okCFs fs = true → rfcCFs fs = true →
    readCompFilters (encCompFilters fs) = some fs
  | [], _, _ => rfl
  | f :: fs, h, hr => by
    simp only [okCFs, rfcCFs, Bool.and_eq_true] at h hr
    have ih := readCompFilters_enc fs h.2 hr.2
    rw [readCompFilters_eq, filter_named (allCal_of_named (named_compFilters _)), pick_named (named_compFilters _),
      if_pos rfl] at ih ⊢
    rw [encCompFilters, List.mapM_cons, readCompFilter_enc f h.1 hr.1, ih]; rfl
end

theorem readDataProp_enc (p : String) : readDataProp (el "prop" [att "name" p] []) = some p := by
  simp [readDataProp, el, attrsOK, att, reqName, attr]

theorem flag_all_bare (l : String) (b : Bool) : (flag l b).all isBare = true := by
  cases b <;> simp [flag, isBare, el]

mutual
theorem readComp_enc : ∀ (c : CompReq), okCR c = true → readComp (encComp c) = some c
  | .mk name ap props ac comps, h => by
    simp only [okCR, Bool.and_eq_true] at h
    obtain ⟨⟨hcs', hap⟩, hac⟩ := h
    have ihc := readComps_enc comps hcs'
    rw [readComps_eq, filter_named (allCal_of_named (named_comps comps)), pick_named (named_comps comps), if_pos rfl] at ihc
    rw [encComp]
    generalize hcs : flag "allprop" ap ++ props.map (fun p => el "prop" [att "name" p] []) ++ flag "allcomp" ac ++ encComps comps = cs
    obtain ⟨hall, htags, p1, p2, p3, p4⟩ :=
      four_runs (named_flag _ ap) (named_dataProps props) (named_flag _ ac) (named_comps comps) (by simp) hcs
    have hseq : seqOK [if ap then .one "allprop" else .star "prop", if ac then .one "allcomp" else .star "comp"]
        (cs.map tag) = true := by
      cases ap <;> cases ac <;>
        simp only [htags, flag, Bool.false_eq_true, if_false, if_true, List.length_nil, List.length_singleton, List.replicate_zero,
          List.nil_append]
      · rw [seqOK_star (by simp), seqOK_star (by simp)]; rfl
      · obtain rfl : comps = [] := by simpa using hac
        rw [seqOK_star (by simp), seqOK_one]; rfl
      · obtain rfl : props = [] := by simpa using hap
        rw [seqOK_one, List.map_nil, List.length_nil, List.replicate_zero, List.nil_append, seqOK_star (by simp)]; rfl
      · obtain rfl : props = [] := by simpa using hap
        obtain rfl : comps = [] := by simpa using hac
        rw [seqOK_one, List.map_nil, List.length_nil, List.replicate_zero, List.nil_append, seqOK_one]; rfl
    show readComp (.elem ⟨nsCal, "comp"⟩ [att "name" name] cs) = _
    simp only [readComp, beq_self_eq_true, attrsOK_name, Bool.and_self, Bool.not_true, Bool.false_eq_true, if_false, reqName_att,
      bind, Option.bind, pure, contains_tag hall, filter_named hall, p1, p2, p3, flag_isEmpty, Bool.not_not, hseq, flag_all_bare,
      mapM_map_some _ _ _ (fun x _ => readDataProp_enc x), readComps_eq, p4, ihc]
theorem readComps_enc : ∀ (cs : List CompReq), okCRs cs = true → readComps (encComps cs) = some cs
  | [], _ => rfl
  | c :: cs, h => by
    simp only [okCRs, Bool.and_eq_true] at h
    have ih := readComps_enc cs h.2
    rw [readComps_eq, filter_named (allCal_of_named (named_comps _)), pick_named (named_comps _), if_pos rfl] at ih ⊢
    rw [encComps, List.mapM_cons, readComp_enc c h.1, ih]; rfl
end

theorem readCalendarData_enc (d : DataReq) (h : okData d = true) (hr : rfcData d = true) :
    readCalendarData (el "calendar-data" [] (encComp d.comp :: encExpand d.expand)) = some d := by
  obtain ⟨c, ex⟩ := d
  simp only [okData, Bool.and_eq_true] at h
  obtain ⟨a, k, hc⟩ := encComp_root c
  have hrc := readComp_enc c h.1
  -- `el` is unfolded in hypothesis and goal alike: the readers match on `.elem ⟨nsCal, l⟩ …`
  simp only [hc, el] at hrc ⊢
  match ex with
  | none => simp [readCalendarData, attrsOK, encExpand, seqOK, hrc]
  | some (s, e) =>
    simp only [rfcData, Bool.and_eq_true, bne_iff_ne, ne_eq] at h hr
    have hex := readExpand_enc s e (inRange_of s h.2.1) (inRange_of e h.2.2) hr.1 hr.2
    simp only [el] at hex
    simp [readCalendarData, attrsOK, encExpand, el, seqOK, hrc, hex]

theorem readPropReq_enc (d : DataReq) (h : okData d = true) (hr : rfcData d = true) : readPropReq (encDataReq d) = some d := by
  have hcd := readCalendarData_enc d h hr
  unfold readPropReq encDataReq dav
  simp only [el] at hcd
  -- the namespace constants are unfolded so that `simp` can tell the DAV: children from the calendar-data element;
  -- what is left is `readCalendarData` of that element, `hcd`
  simp [nsDav, nsCal, el, named, tag]
  simpa [nsCal] using hcd

theorem isPropReq_enc (d : DataReq) : isPropReq (encDataReq d) = true := by
  simp [isPropReq, encDataReq, dav, tag, nsDav, nsCal]

theorem readQuery_encodeQuery (q : Query) (h : Expressible q = true) : readQuery (encodeQuery q) = some q := by
  obtain ⟨d, f⟩ := q
  simp only [Expressible, Accepted, Bool.and_eq_true] at h
  obtain ⟨⟨⟨hd, hf⟩, hrf⟩, hrd⟩ := h
  -- the client writes a property request and the filter: the two-children arm of `readQuery` that begins with `isPropReq`
  simp [readQuery, encodeQuery, el, readFilter, readPropReq_enc d hd hrd, isPropReq_enc d, readCompFilter_enc f hf hrf]

theorem readMultiGet_encodeMultiGet (rp : String) (escape : String → String) (unescape : String → Option String)
    (m : MultiGet) (h : okData m.data = true) (hr : rfcData m.data = true)
    (hesc : ∀ p ∈ (if m.paths.isEmpty then [rp] else m.paths), unescape (escape p) = some p) :
    readMultiGet unescape (encodeMultiGet rp escape m) = some ⟨m.data, if m.paths.isEmpty then [rp] else m.paths⟩ := by
  have hne : (if m.paths.isEmpty then [rp] else m.paths) ≠ [] := by
    cases hp : m.paths <;> simp
  unfold encodeMultiGet
  generalize (if m.paths.isEmpty then [rp] else m.paths) = paths at hesc hne ⊢
  have hh : (paths.map (fun p => dav "href" [Node.text (escape p)])).mapM (readHref unescape) = some paths :=
    mapM_map_some _ _ _ (fun x hx => by simp [readHref, dav, isText, chardata, hesc x hx])
  simp [readMultiGet, el, readPropReq_enc m.data h hr, isPropReq_enc m.data, hh, hne]

end GoWebdav.Lemmas.CaldavRead
