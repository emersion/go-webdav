import GoWebdav.Std.Time
namespace GoWebdav.Lemmas.Time
open GoWebdav.Std.Time GoWebdav.Std.Decimal

/-- the calendar year after March-based year `my` is a leap year: `my` ends in a 29th of February -/
def leapNext (my : Nat) : Prop := (my + 1) % 4 = 0 ∧ ((my + 1) % 100 ≠ 0 ∨ (my + 1) % 400 = 0)

-- the levels of the cascade, each about variables so that `omega` sees one level at a time

/-- Four periods of `L` days and one more day (centuries of 36524 days in 400 years, years of 365 days in a four-year
    cycle): the period `a` of day `r` — the extra day belongs to the last period — and the day `r2` within it.
    `omega` multiplies by literals only, so the quotient `h` is settled first. -/
theorem periods (L r h a r2 : Nat) (hL : 0 < L) (hr : r < 4 * L + 1) (hh : r / L = h) (ha : h - h / 4 = a)
    (hr2 : r - L * a = r2) : a ≤ 3 ∧ r = L * a + r2 ∧ r2 ≤ L ∧ (r2 = L → a = 3) := by
  have hdm := Nat.div_add_mod r L
  have hmod := Nat.mod_lt r hL
  have h4 : r / L ≤ 4 := Nat.div_le_of_le_mul (by omega)
  rw [hh] at hdm h4
  subst ha hr2
  have : h = 0 ∨ h = 1 ∨ h = 2 ∨ h = 3 ∨ h = 4 := by omega
  rcases this with rfl | rfl | rfl | rfl | rfl <;> omega

/-- a century is 24 four-year cycles and a short one; only the last century of the 400 years has its 25th complete -/
theorem cycles (r c r3 : Nat) (hr : r ≤ 36524) (hc : r / 1461 = c) (hr3 : r - 1461 * c = r3) :
    c ≤ 24 ∧ r = 1461 * c + r3 ∧ r3 ≤ 1460 ∧ (c = 24 → r3 = 1460 → r = 36524) := by omega

theorem year_quotients (q a c b y : Nat) (ha : a ≤ 3) (hc : c ≤ 24) (hb : b ≤ 3) (hy : 400 * q + 100 * a + 4 * c + b = y) :
    y / 4 = 100 * q + 25 * a + c ∧ y / 100 = 4 * q + a ∧ y / 400 = q := by omega

/-- what the cascade computes: the day number of day `yd` in the year after `q` four-hundreds, `a` centuries, `c` cycles and `b` years -/
theorem daysOf_pieces (q a c b yd : Nat) (ha : a ≤ 3) (hc : c ≤ 24) (hb : b ≤ 3) :
    daysOf (400 * q + 100 * a + 4 * c + b) yd = 146097 * q + (36524 * a + (1461 * c + (365 * b + yd))) := by
  obtain ⟨y4, y100, y400⟩ := year_quotients q a c b _ ha hc hb rfl
  unfold daysOf
  rw [y4, y100, y400]
  omega

/-- Day 365 is the extra day of a four-year cycle (`b = 3`), so the next year is divisible by 4; it is a multiple of 100 only
    in the last cycle of a century (`c = 24`), whose extra day exists only in the last century (`a = 3`): then of 400. -/
theorem leap_day (q a c b r2 r3 yd : Nat) (r2max : r2 = 36524 → a = 3) (hc : c ≤ 24) (r3max : c = 24 → r3 = 1460 → r2 = 36524)
    (er3 : r3 = 365 * b + yd) (ydmax : yd = 365 → b = 3) (hyd : yd = 365) : leapNext (400 * q + 100 * a + 4 * c + b) := by
  unfold leapNext; omega

theorem split_spec (d : Nat) :
    daysOf (split d).1 (split d).2 = d ∧ (split d).2 ≤ 365 ∧ ((split d).2 = 365 → leapNext (split d).1) := by
  -- the pieces of the cascade as local definitions (so `rfl` proves their equations);
  -- `a`, `b` are the numbers of whole centuries and years that `split` calls `n100`, `n1`
  fun_cases split d with
  | case1 q r h a r2 c r3 k b yd =>
    obtain ⟨a3, er, r2le, r2max⟩ := periods 36524 r h a r2 (by decide) (Nat.mod_lt d (by decide)) rfl rfl rfl
    obtain ⟨c24, er2, r3le, r3max⟩ := cycles r2 c r3 r2le rfl rfl
    obtain ⟨b3, er3, ydle, ydmax⟩ := periods 365 r3 k b yd (by decide) (Nat.lt_succ_of_le r3le) rfl rfl rfl
    refine ⟨?_, ydle, leap_day q a c b r2 r3 yd r2max c24 r3max er3 ydmax⟩
    -- the inversion: `r3`, `r2`, `r` put back level by level, then `d = 146097 * q + r`
    dsimp only
    rw [daysOf_pieces q a c b yd a3 c24 b3, ← er3, ← er2, ← er]
    exact Nat.div_add_mod d 146097

/-- the March-based month `mp` and day `dom` of a day of the year: months of 31, 30 and (February, last) 28 or 29 days -/
theorem month_day (doy mp dom : Nat) (h : doy ≤ 365) (hmp : mpOf doy = mp) (hdom : domOf doy = dom) :
    mp ≤ 11 ∧ doyFrom mp dom = doy ∧ dom ≤ 30 ∧ ((mp = 1 ∨ mp = 3 ∨ mp = 6 ∨ mp = 8) → dom ≤ 29) ∧
    (mp = 11 → dom ≤ 28 ∧ (dom = 28 → doy = 365)) := by
  unfold mpOf at hmp; unfold domOf mpOf at hdom; unfold doyFrom
  omega

/-- up to 9999-12-31 the March-based year is below 10000, and below 9999 from January on -/
theorem year_lt (y yd d : Nat) (h : daysOf y yd = d) (hd : d ≤ 3652364) : y < 10000 ∧ (306 ≤ yd → y < 9999) := by
  unfold daysOf at h; omega

/-- calendar month and year of a March-based month, and back the way `unixOf` goes -/
theorem march_based (my mp m y : Nat) (hmp : mp ≤ 11) (hm : (if mp < 10 then mp + 3 else mp - 9) = m)
    (hy : (if m ≤ 2 then my + 1 else my) = y) :
    1 ≤ m ∧ m ≤ 12 ∧ (if m ≤ 2 then y - 1 else y) = my ∧ (if m ≤ 2 then m + 9 else m - 3) = mp ∧ (m ≤ 2 ↔ 10 ≤ mp) := by
  subst hm hy
  by_cases h : mp < 10
  · simp only [h, if_true]; split <;> omega
  · simp only [h, if_false]; split <;> omega

theorem day_le (y mp m dom : Nat) (hmp : mp ≤ 11) (hm : (if mp < 10 then mp + 3 else mp - 9) = m) (hdom : dom ≤ 30)
    (h30 : mp = 1 ∨ mp = 3 ∨ mp = 6 ∨ mp = 8 → dom ≤ 29)
    (hfeb : mp = 11 → dom ≤ 28 ∧ (dom = 28 → y % 4 = 0 ∧ (y % 100 ≠ 0 ∨ y % 400 = 0))) : dom + 1 ≤ daysInMonth y m := by
  subst hm
  unfold daysInMonth
  repeat' split
  all_goals omega

theorem clock (n : Nat) (h : n < 86400) :
    n / 3600 < 24 ∧ n % 3600 / 60 < 60 ∧ n % 60 < 60 ∧ n / 3600 * 3600 + n % 3600 / 60 * 60 + n % 60 = n := by omega

/-- January, month 10 of the March-based year, begins on its day 306 -/
theorem from_january (mp dom : Nat) (h : 10 ≤ mp) : 306 ≤ doyFrom mp dom := by unfold doyFrom; omega

theorem unix_of_day_second (t : Int) (zz secs : Nat) (hzz : t / 86400 + epochShift = zz) (hsecs : t % 86400 = secs) :
    ((zz : Int) - epochShift) * 86400 + (secs : Nat) = t := by unfold epochShift at *; omega

theorem civil_spec (t : Int) (h : InRange t) :
    let c := civil t
    1 ≤ c.month ∧ c.month ≤ 12 ∧ 1 ≤ c.day ∧ c.day ≤ daysInMonth c.year c.month ∧ c.hour < 24 ∧ c.minute < 60 ∧
    c.second < 60 ∧ c.year < 10000 ∧ unixOf c.year c.month c.day c.hour c.minute c.second = t := by
  unfold InRange at h
  fun_cases civil t with
  | case1 days secs zz my yd hsplit mp m =>
    -- day number and second of the day are not negative (said once: left to itself `omega` splits on each `toNat` at every call)
    have hzz : days + epochShift = zz := (Int.toNat_of_nonneg (by unfold epochShift; omega)).symm
    have hsecs : t % 86400 = secs := (Int.toNat_of_nonneg (by omega)).symm
    obtain ⟨hday, hyd, hleap⟩ := split_spec zz
    simp only [hsplit] at hday hyd hleap
    obtain ⟨hmp, hdoy, hdom, h30, hfeb⟩ := month_day yd mp _ hyd rfl rfl
    generalize domOf yd = dom at *
    obtain ⟨hh, hm, hs, hclock⟩ := clock secs (by omega)
    obtain ⟨hmy, hjan⟩ := year_lt my yd zz hday (by unfold epochShift at hzz; omega)
    dsimp only
    generalize hyr : (if m ≤ 2 then my + 1 else my) = y
    obtain ⟨hm1, hm12, hy', hmp', hjf⟩ := march_based my mp m y hmp rfl hyr
    refine ⟨hm1, hm12, Nat.le_add_left 1 dom, day_le y mp m dom hmp rfl hdom h30 ?_, hh, hm, hs, ?_, ?_⟩
    · -- February: the 29th exists only when the cascade says the March-based year ends in a leap day
      intro h11
      refine ⟨(hfeb h11).1, fun h28 => ?_⟩
      rw [← hyr, if_pos (hjf.mpr (h11 ▸ by decide))]
      exact hleap ((hfeb h11).2 h28)
    · -- the calendar year is the March-based one, plus one from January on, when the latter is below 9999 (`hjan`)
      rw [← hyr]
      split
      · next hm2 => exact Nat.succ_lt_succ (hjan (hdoy ▸ from_january mp dom (hjf.mp hm2)))
      · exact hmy
    · unfold unixOf
      simp only [hy', hmp', Nat.add_sub_cancel, hdoy, hday, hclock]
      exact unix_of_day_second t zz secs hzz hsecs

theorem num2_pad2 (n : Nat) (h : n < 100) : num2 (digitChar (n / 10 % 10)) (digitChar (n % 10)) = some n := by
  simp only [num2, digitVal_digitChar_mod, bind, Option.bind, pure]
  congr 1; omega

theorem num4_pad4 (n : Nat) (h : n < 10000) :
    num4 (digitChar (n / 1000 % 10)) (digitChar (n / 100 % 10)) (digitChar (n / 10 % 10)) (digitChar (n % 10)) = some n := by
  simp only [num4, digitVal_digitChar_mod, bind, Option.bind, pure]
  congr 1; omega

theorem isDay3_dayName3 (w : Nat) : isDay3 (dayName3 w).1 (dayName3 w).2.1 (dayName3 w).2.2 = true := by
  unfold dayName3
  split <;> decide

theorem monthOf3_monthName3 :
    ∀ m < 13, 1 ≤ m → monthOf3 (monthName3 m).1 (monthName3 m).2.1 (monthName3 m).2.2 = some m := by decide

/-- what both parsers need: each field fits its digits and `mkTime` accepts them -/
theorem fields_spec (t : Int) (h : InRange t) :
    let c := civil t
    mkTime c.year c.month c.day c.hour c.minute c.second = some t ∧ c.year < 10000 ∧ 1 ≤ c.month ∧ c.month ≤ 12 ∧
      c.day < 100 ∧ c.hour < 100 ∧ c.minute < 100 ∧ c.second < 100 := by
  obtain ⟨h1, h2, h3, h4, h5, h6, h7, h8, h9⟩ := civil_spec t h
  generalize civil t = c at *
  have : daysInMonth c.year c.month ≤ 31 := by unfold daysInMonth; split <;> (try split) <;> omega
  refine ⟨?_, h8, h1, h2, by omega, by omega, by omega, by omega⟩
  simp [mkTime, h1, h2, h3, h4, h5, h6, h7, h9]

theorem parseHttp_fmtHttp (t : Int) (h : InRange t) : parseHttp (fmtHttp t) = some t := by
  obtain ⟨hmk, hy, hm1, hm12, hd, hh, hmi, hs⟩ := fields_spec t h
  simp only [fmtHttp, parseHttp, pad2, pad4, List.cons_append, List.nil_append, isDay3_dayName3, if_true, num2_pad2 _ hd,
    monthOf3_monthName3 _ (Nat.lt_succ_of_le hm12) hm1, num4_pad4 _ hy, num2_pad2 _ hh, num2_pad2 _ hmi, num2_pad2 _ hs, bind, Option.bind, hmk]

theorem parseCal_fmtCal (t : Int) (h : InRange t) : parseCal (fmtCal t) = some t := by
  obtain ⟨hmk, hy, hm1, hm12, hd, hh, hmi, hs⟩ := fields_spec t h
  simp only [fmtCal, parseCal, pad2, pad4, List.cons_append, List.nil_append, num2_pad2 _ hd, num2_pad2 _ (Nat.lt_of_le_of_lt hm12 (by decide)),
    num4_pad4 _ hy, num2_pad2 _ hh, num2_pad2 _ hmi, num2_pad2 _ hs, bind, Option.bind, hmk]

end GoWebdav.Lemmas.Time
