import GoWebdav.Spec.Carddav
namespace GoWebdav.Lemmas.Carddav
open GoWebdav GoWebdav.Impl.Carddav GoWebdav.Spec.Carddav GoWebdav.Std

theorem anyScan_ok {α} (l : List α) (g : α → Bool) :
    anyScan (l.map (fun x => Except.ok (g x))) = .ok ((l.map g).any id) := by
  induction l with
  | nil => rfl
  | cons a as ih => cases h : g a <;> simp [anyScan, ih, h]

theorem allScan_ok {α} (l : List α) (g : α → Bool) :
    allScan (l.map (fun x => Except.ok (g x))) = .ok ((l.map g).all id) := by
  induction l with
  | nil => rfl
  | cons a as ih => cases h : g a <;> simp [allScan, ih, h]

/-- the `switch test { case anyof, "": …; case allof: …; default: error }` of `Match` and `matchPropFilter`
    over tests that all answer -/
theorem scan_valid {α} {test : String} (ht : validTest test = true) {l : List α} {f : α → Except Err Bool}
    {g : α → Bool} (h : ∀ x ∈ l, f x = .ok (g x)) (e : Err) :
    (if test = "anyof" ∨ test = "" then anyScan (l.map f) else if test = "allof" then allScan (l.map f) else .error e)
      = .ok (combine test (l.map g)) := by
  simp only [validTest, decide_eq_true_eq] at ht
  rw [List.map_congr_left h, anyScan_ok, allScan_ok, combine]
  rcases ht with h | h | h <;> simp [h]

/-- … and the `default:` branch of that switch -/
theorem scan_invalid {test : String} (ht : validTest test = false) (a b : Except Err Bool) (e : Err) :
    (if test = "anyof" ∨ test = "" then a else if test = "allof" then b else .error e) = .error e := by
  simp only [validTest, decide_eq_false_iff_not, not_or] at ht
  rw [if_neg (by simp [ht.1, ht.2.1]), if_neg ht.2.2]

theorem matchTextMatch_valid (t : TextMatch) (v : String) (h : validMatchType t.matchType = true) :
    matchTextMatch t v = .ok (textHolds t v) := by
  simp only [validMatchType, decide_eq_true_eq] at h
  unfold matchTextMatch textHolds
  rcases h with h | h | h | h | h <;> simp [h] <;> cases t.negate <;> simp

theorem matchPropFilter_valid (pf : PropFilter) (card : Card)
    (ht : validTest pf.test = true) (hm : ∀ tm ∈ pf.textMatches, validMatchType tm.matchType = true) :
    matchPropFilter pf card = .ok (propHolds pf card) := by
  unfold matchPropFilter propHolds
  cases card.get pf.name with
  | none => rfl
  | some v =>
    simp only [scan_valid ht (fun tm htm => matchTextMatch_valid tm v (hm tm htm))]
    cases pf.isNotDefined <;> cases pf.textMatches.isEmpty <;> rfl

theorem match_valid (q : Query) (card : Card) (hv : ValidQuery q) : match_ q card = .ok (holds q card) :=
  scan_valid hv.1 (fun pf hpf => matchPropFilter_valid pf card (hv.2 pf hpf).1 (hv.2 pf hpf).2) _

theorem match_unknown_test (q : Query) (card : Card) (h : validTest q.filterTest = false) :
    match_ q card = .error .unknownQueryTest := scan_invalid h _ _ _

theorem values_insert (c : Card) (k q : String) (v : List String) :
    (c.insert k v).values q = if k = q then v else c.values q := by
  unfold Card.insert Card.values
  by_cases h : k = q <;> simp [h]

theorem values_of_absent (c : Card) (p : String) (h : (c.find? (fun kv => kv.1 == p)).isSome = false) :
    c.values p = [] := by
  unfold Card.values
  cases hf : c.find? (fun kv => kv.1 == p) with
  | none => rfl
  | some kv => simp [hf] at h

theorem fold_values (P : String → Bool) (V : String → List String) (props : List String) (acc : Card) (k : String) :
    (props.foldl (fun (acc : Card) p => if P p then acc.insert p (V p) else acc) acc).values k
      = if k ∈ props ∧ P k = true then V k else acc.values k := by
  induction props generalizing acc with
  | nil => simp
  | cons p ps ih =>
    rw [List.foldl_cons, ih]
    by_cases hpk : p = k
    · subst hpk; cases hp : P p <;> simp [values_insert]
    · have hkp : ¬ k = p := fun h => hpk h.symm
      cases P p <;> simp [values_insert, hpk, hkp]

/-- `x` is `ao` reduced to the requested properties -/
def Projects (q : Query) (ao x : AO) : Prop :=
  x.path = ao.path ∧ ∀ k, x.card.values k = if keep q k = true then ao.card.values k else []

theorem filterProperties_spec (q : Query) (ao : AO) (hne : q.allProp = true ∨ q.props.isEmpty = true ∨ ao.card.isEmpty = false) :
    ∃ x, filterProperties q ao = .ok x ∧ Projects q ao x := by
  fun_cases filterProperties q ao with
  | case1 hall => exact ⟨ao, rfl, rfl, fun k => by rcases hall with h | h <;> simp [keep, h]⟩
  | case2 hall hempty => exact absurd hempty (by simpa using (or_assoc.mpr hne).resolve_left hall)  -- the panic
  | case3 hall _ =>
    refine ⟨_, rfl, rfl, fun k => ?_⟩
    -- the values under `k` of the folded card (`fold_values`), then three cases: VERSION, a requested name, neither
    simp only [not_or, Bool.not_eq_true] at hall
    rw [fold_values (fun p => (ao.card.find? (fun kv => kv.1 == p)).isSome) ao.card.values, values_insert]
    have hkeep : keep q k = (decide (k = "VERSION") || decide (k ∈ q.props)) := by
      simp only [keep, hall.1, hall.2, Bool.false_or, List.contains_eq_mem]
    rw [hkeep]
    by_cases hkv : "VERSION" = k
    · rw [if_pos hkv, hkv, ite_self, decide_eq_true rfl, Bool.true_or, if_pos rfl]
    · rw [if_neg hkv, decide_eq_false (Ne.symm hkv), Bool.false_or, show Card.values [] k = [] from rfl]
      by_cases hk : k ∈ q.props
      · rw [decide_eq_true hk, if_pos rfl]
        cases hp : (ao.card.find? (fun kv => kv.1 == k)).isSome
        · rw [if_neg (by simp), values_of_absent _ _ hp]
        · rw [if_pos ⟨hk, rfl⟩]
      · rw [if_neg (fun h => hk h.1), decide_eq_false hk, if_neg Bool.false_ne_true]

/-- `filterProperties` does not reach its `panic("request to process empty vCard")` (carddav/match.go): it is reached only
    when named properties are asked of an empty card -/
def NoPanic (q : Query) (aos : List AO) : Prop :=
  q.allProp = true ∨ q.props.isEmpty = true ∨ ∀ ao ∈ aos, ao.card.isEmpty = false

theorem filterLoop_eq_mapM (q : Query) (hv : ValidQuery q) (n : Nat) (l : List AO) (k : Nat) (hk : k < n) :
    filterLoop q n l k = ((l.filter (fun ao => holds q ao.card)).take (n - k)).mapM (filterProperties q) := by
  -- by hand, not along `filterLoop`: its scrutinee `match_ q ao.card` is rewritten by `match_valid` first
  induction l generalizing k with
  | nil => rw [List.filter_nil, List.take_nil, List.mapM_nil]; rfl
  | cons ao rest ih =>
    unfold filterLoop
    rw [match_valid q ao.card hv, List.filter_cons]
    cases holds q ao.card with
    | false => exact ih k hk
    | true =>
      rw [if_pos rfl, show n - k = n - (k + 1) + 1 by omega, List.take_succ_cons, List.mapM_cons]
      cases filterProperties q ao with
      | error e => rfl
      | ok x =>
        by_cases hlast : k + 1 ≥ n
        · simp only [if_pos hlast, Nat.sub_eq_zero_of_le hlast]; rfl
        · simp only [if_neg hlast, ih (k + 1) (Nat.lt_of_not_ge hlast)]; rfl

theorem take_effLimit (limit : Int) (l : List AO) (p : AO → Bool) :
    (l.filter p).take (effLimit limit l.length) = cut limit (l.filter p) := by
  unfold effLimit cut
  have hlen := List.length_filter_le p l
  by_cases h1 : limit ≤ 0
  · simp only [h1, true_or, if_true]
    exact List.take_of_length_le hlen
  · by_cases h2 : limit > (l.length : Int)
    · simp only [h1, h2, or_true, if_true, if_false]
      rw [List.take_of_length_le hlen, List.take_of_length_le]
      omega
    · simp [h1, h2]

theorem filter_eq_mapM (q : Query) (hv : ValidQuery q) (aos : List AO) :
    filter (some q) aos = (selected q aos).mapM (filterProperties q) := by
  show filterLoop q (effLimit q.limit aos.length) aos 0 = _
  cases aos with
  | nil => rw [show selected q [] = [] by simp [selected, cut], List.mapM_nil]; rfl
  | cons a as =>
    have hpos : 0 < effLimit q.limit (a :: as).length := by
      unfold effLimit; split <;> simp <;> omega
    rw [selected, ← take_effLimit, filterLoop_eq_mapM q hv _ _ 0 hpos, Nat.sub_zero]

theorem mem_selected {q : Query} {aos : List AO} {ao : AO} (h : ao ∈ selected q aos) : ao ∈ aos := by
  unfold selected cut at h
  split at h
  · exact (List.mem_filter.mp h).1
  · exact (List.mem_filter.mp (List.mem_of_mem_take h)).1

end GoWebdav.Lemmas.Carddav
