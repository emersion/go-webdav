import GoWebdav.Std.Path
/-!
`path.Clean` on the segment view (`Std.Path`).  One invariant lemma for the stack machine (`cleanSegs_forall`) says what the
segments of a result look like; cleaning continues across a separator with what the part before it left on the stack
(`rootedSegs_append_slash`), from which prefixes (C12) and joined paths (C03) follow.
-/
namespace GoWebdav.Lemmas.Path
open GoWebdav GoWebdav.Std.Path

theorem splitSlash_ne_nil (l : Bytes) : splitSlash l ≠ [] := by
  fun_cases splitSlash l <;> exact List.cons_ne_nil _ _

theorem splitSlash_noslash (l : Bytes) : ∀ s ∈ splitSlash l, slash ∉ s := by
  fun_induction splitSlash l with
  | case1 => simp
  | case2 cs ih => simpa using ih
  | case3 c cs hc s ss h ih => rw [h] at ih; simpa [Ne.symm hc] using ih
  | case4 c cs _ h => exact absurd h (splitSlash_ne_nil cs)

theorem splitSlash_seg (s : Seg) (hs : slash ∉ s) : splitSlash s = [s] := by
  induction s with
  | nil => rfl
  | cons c cs ih =>
    have ⟨hc, hcs⟩ : c ≠ slash ∧ slash ∉ cs := by simpa [eq_comm] using hs
    simp only [splitSlash, hc, if_false, ih hcs]

theorem splitSlash_append_slash (a b : Bytes) : splitSlash (a ++ slash :: b) = splitSlash a ++ splitSlash b := by
  fun_induction splitSlash a with
  | case1 => simp [splitSlash]
  | case2 cs ih => simp [splitSlash, ih]
  | case3 c cs hc s ss h ih => simp [splitSlash, hc, ih, h]
  | case4 c cs _ h => exact absurd h (splitSlash_ne_nil cs)

/-- `strings.Split(strings.Join(segs, "/"), "/") = segs` -/
theorem splitSlash_joinSegs (segs : List Seg) (h : ∀ s ∈ segs, slash ∉ s) (hne : segs ≠ []) :
    splitSlash (joinSegs segs) = segs := by
  fun_induction joinSegs segs with
  | case1 => exact absurd rfl hne
  | case2 s => exact splitSlash_seg s (h s (by simp))
  | case3 s ss hss ih =>
    obtain ⟨hs, hrest⟩ := List.forall_mem_cons.mp h
    rw [splitSlash_append_slash, splitSlash_seg s hs, ih hrest hss]; rfl

theorem joinSegs_render (below : List Seg) (hne : below ≠ []) : slash :: joinSegs below = renderSegs below := by
  fun_induction joinSegs below with
  | case1 => exact absurd rfl hne
  | case2 s => simp [renderSegs]
  | case3 s ss hss ih => rw [renderSegs, ← ih hss]

theorem render_append (pre below : List Seg) : renderSegs (pre ++ below) = renderSegs pre ++ renderSegs below := by
  induction pre with
  | nil => simp [renderSegs]
  | cons s ss ih => simp [renderSegs, ih]

theorem splitSlash_renderSegs (segs : List Seg) (h : ∀ s ∈ segs, slash ∉ s) (hne : segs ≠ []) :
    splitSlash (renderSegs segs) = [] :: segs := by
  rw [← joinSegs_render segs hne, splitSlash, if_pos rfl, splitSlash_joinSegs segs h hne]

theorem splitSlash_render (segs : List Seg) (h : ∀ s ∈ segs, slash ∉ s) (hne : segs ≠ []) (trailing : Bool) :
    splitSlash (renderSegs segs ++ (if trailing then [slash] else [])) = [] :: segs ++ (if trailing then [[]] else []) := by
  cases trailing
  · simpa using splitSlash_renderSegs segs h hne
  · -- a trailing slash is one more, empty, segment
    have := splitSlash_renderSegs (segs ++ [[]]) (by simpa [or_imp, forall_and] using h) (by simp)
    simpa [render_append, renderSegs] using this

theorem mem_renderSegs {b : UInt8} {l : List Seg} (h : b ∈ renderSegs l) : b = slash ∨ ∃ s ∈ l, b ∈ s := by
  induction l with
  | nil => cases h
  | cons s ss ih =>
    simp only [renderSegs, List.mem_cons, List.mem_append] at h
    rcases h with h | h | h
    · exact .inl h
    · exact .inr ⟨s, by simp, h⟩
    · exact (ih h).imp_right fun ⟨t, ht, hb⟩ => ⟨t, List.mem_cons_of_mem _ ht, hb⟩

theorem head?_joinSegs_ne_slash (s : Seg) (ss : List Seg) (hne : s ≠ []) (hs : slash ∉ s) :
    (joinSegs (s :: ss)).head? ≠ some slash := by
  cases s with
  | nil => exact absurd rfl hne
  | cons c cs =>
    have hc : c ≠ slash := fun hc => hs (by simp [hc])
    cases ss <;> simpa [joinSegs] using hc

theorem trimPrefix_append (a b : Bytes) : trimPrefix (a ++ b) a = b := by
  have : a.isPrefixOf (a ++ b) = true := List.isPrefixOf_iff_prefix.mpr (List.prefix_append a b)
  simp [trimPrefix, this]

/-- `hdd`: a relative path is the only case in which `..` is pushed -/
theorem cleanSegs_forall (P : Seg → Prop) (rooted : Bool) (hdd : rooted = false → P dotdot) (st inp : List Seg)
    (hst : ∀ s ∈ st, P s) (hin : ∀ s ∈ inp, s ≠ [] → s ≠ dot → s ≠ dotdot → P s) :
    ∀ s ∈ cleanSegs rooted st inp, P s := by
  fun_induction cleanSegs rooted st inp with
  | case1 st => simpa using hst
  | case2 st s rest _ ih => exact ih hst (List.forall_mem_cons.mp hin).2
  | case3 rest st' _ ih => -- `..` on `..`: pushed
    exact ih (List.forall_mem_cons.mpr ⟨(List.forall_mem_cons.mp hst).1, hst⟩) (List.forall_mem_cons.mp hin).2
  | case4 rest top st' _ _ ih => exact ih (List.forall_mem_cons.mp hst).2 (List.forall_mem_cons.mp hin).2 -- `..` pops
  | case5 rest _ _ ih => exact ih hst (List.forall_mem_cons.mp hin).2 -- `..` at the root: dropped
  | case6 rest hr _ ih => -- `..` first in a relative path: pushed
    exact ih (by simpa using hdd (Bool.eq_false_iff.mpr hr)) (List.forall_mem_cons.mp hin).2
  | case7 st s rest h1 h2 ih =>
    obtain ⟨hs, hrest⟩ := List.forall_mem_cons.mp hin
    exact ih (List.forall_mem_cons.mpr ⟨hs (fun h => h1 (.inl h)) (fun h => h1 (.inr h)) h2, hst⟩) hrest

theorem cleanSegs_of_normal (rooted : Bool) (st inp : List Seg) (hin : ∀ s ∈ inp, Normal s) :
    cleanSegs rooted st inp = st.reverse ++ inp := by
  induction inp generalizing st with
  | nil => simp [cleanSegs]
  | cons a rest ih =>
    obtain ⟨⟨h0, h1, h2, _⟩, hrest⟩ := List.forall_mem_cons.mp hin
    simp [cleanSegs, h0, h1, h2, ih _ hrest]

theorem cleanSegs_append (r : Bool) (st xs ys : List Seg) :
    cleanSegs r st (xs ++ ys) = cleanSegs r (cleanSegs r st xs).reverse ys := by
  -- one step only changes the stack, and the left side takes the same step
  fun_induction cleanSegs r st xs with
  | case1 st => simp
  | case2 st x xs hx ih => simpa [cleanSegs, hx] using ih
  -- the four exits of `..` (the segment has been substituted, so its own test `hx` comes last)
  | case3 xs st' hx ih => simpa [cleanSegs, hx] using ih            -- on top of `..`
  | case4 xs top st' htop hx ih => simpa [cleanSegs, hx, htop] using ih   -- pops a segment
  | case5 xs hr hx ih => simpa [cleanSegs, hx, hr] using ih          -- at the root
  | case6 xs hr hx ih => simpa [cleanSegs, hx, hr] using ih          -- in front of a relative path
  | case7 st x xs h1 h2 ih => simpa [cleanSegs, h1, h2] using ih

/-- the core of C03 -/
theorem rootedSegs_normal (name : Bytes) : ∀ s ∈ rootedSegs name, Normal s :=
  cleanSegs_forall Normal true (by simp) [] _ (by simp)
    fun s hs h0 h1 h2 => ⟨h0, h1, h2, splitSlash_noslash name s hs⟩

theorem rootedSegs_append_slash (a b : Bytes) :
    rootedSegs (a ++ slash :: b) = cleanSegs true (rootedSegs a).reverse (splitSlash b) := by
  simp only [rootedSegs, splitSlash_append_slash, cleanSegs_append]

theorem rootedSegs_trailing_slash (a : Bytes) : rootedSegs (a ++ [slash]) = rootedSegs a := by
  simp [rootedSegs_append_slash, splitSlash, cleanSegs]

/-- `Clean(prefix + "/" + name)`, whatever the spelling of the prefix (trailing slashes, `/./`, `//`, `x/..`) -/
theorem rootedSegs_join (spelled : Bytes) (below : List Seg) (hb : ∀ s ∈ below, Normal s) (hne : below ≠ []) :
    rootedSegs (spelled ++ slash :: joinSegs below) = rootedSegs spelled ++ below := by
  rw [rootedSegs_append_slash, splitSlash_joinSegs below (fun s hs => (hb s hs).2.2.2) hne, cleanSegs_of_normal _ _ _ hb,
    List.reverse_reverse]

theorem rootedSegs_render (segs : List Seg) (h : ∀ s ∈ segs, Normal s) (hne : segs ≠ []) (trailing : Bool) :
    rootedSegs (renderSegs segs ++ (if trailing then [slash] else [])) = segs := by
  have : rootedSegs (renderSegs segs) = segs := by
    rw [← joinSegs_render segs hne]; exact rootedSegs_join [] segs h hne
  cases trailing
  · simpa using this
  · simpa [rootedSegs_trailing_slash] using this

theorem isAbs_render (segs : List Seg) (hne : segs ≠ []) (rest : Bytes) : isAbs (renderSegs segs ++ rest) = true := by
  obtain ⟨s, ss, rfl⟩ := List.exists_cons_of_ne_nil hne; rfl

theorem clean_of_isAbs (s : Bytes) (h : isAbs s = true) :
    clean s = if rootedSegs s = [] then [slash] else renderSegs (rootedSegs s) := by
  fun_cases clean s with
  | case1 hs => subst hs; cases h
  | case2 _ _ hc => rw [rootedSegs, hc, if_pos rfl]
  | case3 _ _ hc => rw [rootedSegs, if_neg hc]
  | case4 _ ha | case5 _ ha => exact absurd h ha

theorem clean_render (segs : List Seg) (h : ∀ s ∈ segs, Normal s) (hne : segs ≠ []) (trailing : Bool) :
    clean (renderSegs segs ++ (if trailing then [slash] else [])) = renderSegs segs := by
  rw [clean_of_isAbs _ (isAbs_render segs hne _), rootedSegs_render segs h hne, if_neg hne]

theorem isAbs_clean (s : Bytes) : isAbs (clean s) = isAbs s := by
  fun_cases clean s with
  | case1 hs => subst hs; rfl
  | case2 _ ha _ => rw [ha]; rfl
  | case3 _ ha hc =>
    obtain ⟨a, as, h⟩ := List.exists_cons_of_ne_nil hc
    rw [ha, h]; rfl
  | case4 _ ha _ => rw [(Bool.not_eq_true _).mp ha]; rfl
  | case5 _ ha hc =>
    -- the first segment of the result is non-empty and has no separator in it
    have hseg := cleanSegs_forall (fun s => s ≠ [] ∧ slash ∉ s) false (fun _ => by decide) [] (splitSlash s) (by simp)
      fun s hs h0 _ _ => ⟨h0, splitSlash_noslash _ s hs⟩
    obtain ⟨a, as, h⟩ := List.exists_cons_of_ne_nil hc
    obtain ⟨hne, hns⟩ := hseg a (by simp [h])
    rw [(Bool.not_eq_true _).mp ha, h]
    simpa [isAbs] using head?_joinSegs_ne_slash a as hne hns

end GoWebdav.Lemmas.Path
