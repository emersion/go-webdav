import GoWebdav.Impl.Frontend
/-!
The method switch of `internal.Handler.ServeHTTP`, which the file server (`Impl.Webdav.step`, where the lookup is
written out: `Impl.Webdav` does not import `Impl.Frontend`) and the CalDAV / CardDAV front end
(`Impl.Frontend.davServe`) both go through: the regenerated table read once (`handlerOf_eq`), and what a `switch` over
the handler's name then does, method by method (`switch_eq`), whatever the branches return.
-/
namespace GoWebdav.Lemmas.Dispatch
open GoWebdav GoWebdav.Impl.Frontend

theorem handlerOf_eq (m : String) : handlerOf m =
    if m = "OPTIONS" then "h.handleOptions" else if m = "GET" then "h.Backend.HeadGet" else if m = "HEAD" then "h.Backend.HeadGet"
    else if m = "PUT" then "h.Backend.Put" else if m = "DELETE" then "h.Backend.Delete" else if m = "PROPFIND" then "h.handlePropfind"
    else if m = "PROPPATCH" then "h.handleProppatch" else if m = "MKCOL" then "h.Backend.Mkcol" else if m = "COPY" then "h.handleCopyMove"
    else if m = "MOVE" then "h.handleCopyMove" else "HTTPErrorf" := by
  unfold handlerOf Generated.dispatch
  by_cases h1 : m = "OPTIONS"; · simp +decide [h1]
  by_cases h2 : m = "GET"; · simp +decide [h2]
  by_cases h3 : m = "HEAD"; · simp +decide [h3]
  by_cases h4 : m = "PUT"; · simp +decide [h4]
  by_cases h5 : m = "DELETE"; · simp +decide [h5]
  by_cases h6 : m = "PROPFIND"; · simp +decide [h6]
  by_cases h7 : m = "PROPPATCH"; · simp +decide [h7]
  by_cases h8 : m = "MKCOL"; · simp +decide [h8]
  by_cases h9 : m = "COPY"; · simp +decide [h9]
  by_cases h10 : m = "MOVE"; · simp +decide [h10]
  -- no entry for `m`: the `*` entry answers (also when `m` is `*` itself)
  have e : ∀ k : String, ¬ m = k → (k == m) = false := fun k h => by simpa using Ne.symm h
  simp only [List.find?_cons, e _ h1, e _ h2, e _ h3, e _ h4, e _ h5, e _ h6, e _ h7, e _ h8, e _ h9, e _ h10, h1, h2, h3, h4,
    h5, h6, h7, h8, h9, h10, if_false]
  cases hs : "*" == m <;> simp +decide

theorem switch_eq {α : Type} (m : String) (a b c d e f g h z : α) :
    (if handlerOf m = "h.handleOptions" then a else if handlerOf m = "h.Backend.HeadGet" then b
     else if handlerOf m = "h.Backend.Put" then c else if handlerOf m = "h.Backend.Delete" then d
     else if handlerOf m = "h.handlePropfind" then e else if handlerOf m = "h.handleProppatch" then f
     else if handlerOf m = "h.Backend.Mkcol" then g else if handlerOf m = "h.handleCopyMove" then h else z) =
    if m = "OPTIONS" then a else if m = "GET" ∨ m = "HEAD" then b else if m = "PUT" then c else if m = "DELETE" then d
    else if m = "PROPFIND" then e else if m = "PROPPATCH" then f else if m = "MKCOL" then g
    else if m = "COPY" ∨ m = "MOVE" then h else z := by
  rw [handlerOf_eq]
  by_cases h1 : m = "OPTIONS"; · simp +decide [h1]
  by_cases h2 : m = "GET"; · simp +decide [h2]
  by_cases h3 : m = "HEAD"; · simp +decide [h3]
  by_cases h4 : m = "PUT"; · simp +decide [h4]
  by_cases h5 : m = "DELETE"; · simp +decide [h5]
  by_cases h6 : m = "PROPFIND"; · simp +decide [h6]
  by_cases h7 : m = "PROPPATCH"; · simp +decide [h7]
  by_cases h8 : m = "MKCOL"; · simp +decide [h8]
  by_cases h9 : m = "COPY"; · simp +decide [h9]
  by_cases h10 : m = "MOVE"; · simp +decide [h10]
  simp +decide [h1, h2, h3, h4, h5, h6, h7, h8, h9, h10]

theorem davServe_eq (r : Req) : davServe r =
    if r.method = "REPORT" then report r
    else if r.method = "OPTIONS" then refuse 204 else if r.method = "GET" ∨ r.method = "HEAD" then headGet r
    else if r.method = "PUT" then put r else if r.method = "DELETE" then delete r else if r.method = "PROPFIND" then propfind r
    else if r.method = "PROPPATCH" then proppatch r else if r.method = "MKCOL" then mkcol r
    else if r.method = "COPY" ∨ r.method = "MOVE" then copyMove r else refuse 405 := by
  unfold davServe; rw [switch_eq]

end GoWebdav.Lemmas.Dispatch
