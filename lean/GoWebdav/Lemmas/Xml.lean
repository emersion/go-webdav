import GoWebdav.Spec.XmlNoise
import GoWebdav.Lemmas.MapM
import GoWebdav.Lemmas.ReadInv
/-!
What the CalDAV and CardDAV wire proofs share: how a struct-tag decoder sees a child list (`filter (·.localIs loc)`,
the elements a field tagged `loc` is filled from), runs of children with one name, `mapM` over encoded lists, inversion
of `do` blocks in `Option` and `Except`, induction over element trees (`Node.induct`), and what the removal of
insignificant content (`Spec.XmlNoise.clean`) does to a node and to what a decoder sees of it.
-/
namespace GoWebdav.Lemmas.Xml
open GoWebdav.Std.Xml GoWebdav.Spec.XmlNoise

@[simp] theorem ok_bind {ε α β : Type} (a : α) (f : α → Except ε β) : (Except.ok a >>= f) = f a := rfl
@[simp] theorem error_bind {ε α β : Type} (e : ε) (f : α → Except ε β) : (Except.error e >>= f) = .error e := rfl
@[simp] theorem pure_ok {ε α : Type} (a : α) : (pure a : Except ε α) = .ok a := rfl

theorem bind_eq_ok {ε α β : Type} (x : Except ε α) (f : α → Except ε β) (b : β) :
    (x >>= f) = .ok b ↔ ∃ a, x = .ok a ∧ f a = .ok b := by
  cases x <;> simp

attribute [read_inv] Option.bind_eq_bind Option.bind_eq_some_iff Option.ite_none_left_eq_some Option.ite_none_right_eq_some
  Option.pure_def Option.some.injEq Bool.not_eq_true Bool.not_eq_false' Bool.and_eq_true Bool.or_eq_true beq_iff_eq

-- `Lemmas.MapM` in the two monads of the wire models, with `.ok` / `some` for `pure` so that `rw` and `simp` find them
theorem mapM_ok {ε α β : Type} (f : α → Except ε β) (g : α → β) (l : List α) (h : ∀ x ∈ l, f x = .ok (g x)) :
    l.mapM f = .ok (l.map g) :=
  mapM_eq_pure_map f g l h

theorem mapM_map_ok {ε α β : Type} (enc : α → β) (dec : β → Except ε α) (l : List α) (h : ∀ x ∈ l, dec (enc x) = .ok x) :
    (l.map enc).mapM dec = .ok l :=
  mapM_map_eq_pure enc dec l h

theorem mapM_map_some {α β : Type} (enc : α → β) (dec : β → Option α) (l : List α) (h : ∀ x ∈ l, dec (enc x) = some x) :
    (l.map enc).mapM dec = some l :=
  mapM_map_eq_pure enc dec l h

theorem mapM_agree {ε α β : Type} (read : β → Option α) (dec : β → Except ε α) (l : List β)
    (hag : ∀ n ∈ l, ∀ x, read n = some x → dec n = .ok x) (xs : List α) (h : l.mapM read = some xs) :
    l.mapM dec = .ok xs := by
  induction l generalizing xs with
  | nil => cases h; rfl
  | cons n ns ih =>
    simp only [List.mapM_cons, read_inv] at h
    obtain ⟨x, hx, ys, hys, rfl⟩ := h
    rw [List.mapM_cons, hag n (by simp) x hx, ih (fun m hm => hag m (by simp [hm])) ys hys]; rfl

theorem mapM_some_map {α β : Type} (read : β → Option α) (g : β → α) (l : List β)
    (hg : ∀ n ∈ l, ∀ x, read n = some x → g n = x) (xs : List α) (h : l.mapM read = some xs) : l.map g = xs := by
  -- `g` as a decoder that never fails: an instance of `mapM_agree`
  have := mapM_agree read (fun n => (.ok (g n) : Except Unit α)) l (fun n hn x hx => by rw [hg n hn x hx]) xs h
  rw [mapM_ok _ g l (fun _ _ => rfl)] at this
  exact Except.ok.inj this

theorem mapM_all {α β : Type} (read : β → Option α) (P : β → Prop) (hP : ∀ n x, read n = some x → P n)
    (l : List β) (xs : List α) (h : l.mapM read = some xs) : ∀ n ∈ l, P n := by
  induction l generalizing xs with
  | nil => intro n hn; cases hn
  | cons m ms ih =>
    simp only [List.mapM_cons, read_inv] at h
    obtain ⟨x, hx, ys, hys, _⟩ := h
    intro n hn
    rcases List.mem_cons.mp hn with rfl | hn
    · exact hP _ x hx
    · exact ih ys hys n hn

theorem Node.induct {P : Node → Prop} (text : ∀ s, P (.text s)) (comment : ∀ s, P (.comment s))
    (elem : ∀ q a cs, (∀ c ∈ cs, P c) → P (.elem q a cs)) : ∀ n, P n :=
  Node.rec (motive_2 := fun cs => ∀ c ∈ cs, P c) elem text comment (fun _ h => nomatch h)
    fun _ _ hc hcs => List.forall_mem_cons.mpr ⟨hc, hcs⟩

@[simp] theorem localIs_elem (q : QName) (a : List (QName × String)) (c : List Node) (loc : String) :
    (Node.elem q a c).localIs loc = (q.loc == loc) := rfl

@[simp] theorem isElem_elem (q : QName) (a : List (QName × String)) (c : List Node) (space loc : String) :
    (Node.elem q a c).isElem space loc = (q.space == space && q.loc == loc) := rfl

theorem isElem_iff {n : Node} {ns l : String} : n.isElem ns l = true ↔ ∃ a c, n = .elem ⟨ns, l⟩ a c := by
  constructor
  · intro h
    cases n with
    | elem q a c =>
      obtain ⟨s, l'⟩ := q
      simp only [isElem_elem, Bool.and_eq_true, beq_iff_eq] at h
      obtain ⟨rfl, rfl⟩ := h
      exact ⟨a, c, rfl⟩
    | text s => cases h
    | comment s => cases h
  · rintro ⟨a, c, rfl⟩; simp

theorem takeWhile_dropWhile_append {α : Type} (p : α → Bool) (a b : List α) (ha : ∀ x ∈ a, p x = true)
    (hb : ∀ x ∈ b, p x = false) : (a ++ b).takeWhile p = a ∧ (a ++ b).dropWhile p = b := by
  rw [List.takeWhile_append_of_pos ha, List.dropWhile_append_of_pos ha]
  cases b with
  | nil => simp
  | cons x xs => simp [hb x (by simp)]

/-- a run: the children a field tagged `l` is filled from, as an encoder writes them -/
def Named (ns l : String) (cs : List Node) : Prop := ∀ n ∈ cs, ∃ a c, n = .elem ⟨ns, l⟩ a c

namespace Named
variable {ns l : String}

theorem nil : Named ns l [] := fun _ h => by cases h

theorem cons {a : List (QName × String)} {c : List Node} {cs : List Node} (h : Named ns l cs) :
    Named ns l (.elem ⟨ns, l⟩ a c :: cs) := by
  intro n hn
  rcases List.mem_cons.mp hn with rfl | hn
  · exact ⟨a, c, rfl⟩
  · exact h n hn

theorem one (a : List (QName × String)) (c : List Node) : Named ns l [.elem ⟨ns, l⟩ a c] := nil.cons

theorem ite (p : Prop) [Decidable p] {a b : List Node} (ha : Named ns l a) (hb : Named ns l b) :
    Named ns l (if p then a else b) := by
  split <;> assumption

theorem map {α : Type} (f : α → Node) (h : ∀ x, ∃ a c, f x = .elem ⟨ns, l⟩ a c) (xs : List α) : Named ns l (xs.map f) := by
  intro n hn
  obtain ⟨x, _, rfl⟩ := List.mem_map.mp hn
  exact h x

theorem filter_localIs {cs : List Node} (h : Named ns l cs) (loc : String) :
    cs.filter (·.localIs loc) = if l = loc then cs else [] := by
  split
  · next hl => subst hl; exact List.filter_eq_self.mpr fun n hn => by obtain ⟨a, c, rfl⟩ := h n hn; simp
  · next hl => exact List.filter_eq_nil_iff.mpr fun n hn => by obtain ⟨a, c, rfl⟩ := h n hn; simpa using hl

theorem filter_isElem {cs : List Node} (h : Named ns l cs) (space loc : String) :
    cs.filter (·.isElem space loc) = if ns = space ∧ l = loc then cs else [] := by
  split
  · next hl =>
    obtain ⟨rfl, rfl⟩ := hl
    exact List.filter_eq_self.mpr fun n hn => by obtain ⟨a, c, rfl⟩ := h n hn; simp [Node.isElem]
  · next hl =>
    exact List.filter_eq_nil_iff.mpr fun n hn => by
      obtain ⟨a, c, rfl⟩ := h n hn
      simpa [Node.isElem, -not_and] using hl

end Named

theorem filter_localIs_cleanList (pc : String → Bool) (loc : String) (cs : List Node) :
    (cleanList pc cs).filter (·.localIs loc) = (cs.filter (·.localIs loc)).map (clean pc) :=
  filter_cleanList pc _ (byName_localIs loc) cs

theorem filter_isElem_cleanList (pc : String → Bool) (space loc : String) (cs : List Node) :
    (cleanList pc cs).filter (·.isElem space loc) = (cs.filter (·.isElem space loc)).map (clean pc) :=
  filter_cleanList pc _ (byName_isElem space loc) cs

theorem clean_pcdata (pc : String → Bool) (n : Node) (loc : String) (hl : n.localIs loc = true) (hp : pc loc = true) :
    clean pc n = n := by
  fun_cases clean pc n with
  | case2 q a cs hnot =>
    -- the children would be cleaned: not under this name
    rw [eq_of_beq hl] at hnot
    exact absurd hp hnot
  | _ => rfl

theorem localIs_of_isElem {n : Node} {space loc : String} (h : n.isElem space loc = true) : n.localIs loc = true := by
  cases n <;> simp_all [Node.isElem, Node.localIs]

theorem clean_children (pc : String → Bool) (n : Node) (loc : String) (hl : n.localIs loc = true) (hp : pc loc = false) :
    ∃ q a cs, n = .elem q a cs ∧ clean pc n = .elem q a (cleanList pc cs) := by
  cases n with
  | elem q a cs =>
    have : q.loc = loc := by simpa using hl
    exact ⟨q, a, cs, rfl, by simp [clean, this, hp]⟩
  | text s => cases hl
  | comment s => cases hl

/-- the induction behind every "decoder ∘ clean = decoder" statement -/
theorem clean_congr {β : Type} (pc : String → Bool) (f : Node → β)
    (h : ∀ q a cs, (∀ c ∈ cs, f (clean pc c) = f c) → f (.elem q a (cleanList pc cs)) = f (.elem q a cs)) (n : Node) :
    f (clean pc n) = f n := by
  induction n using Node.induct with
  | elem q a cs ih =>
    simp only [clean]
    split
    · rfl
    · exact h q a cs ih
  | text s => rfl
  | comment s => rfl

theorem mapM_map_clean {ε α : Type} (pc : String → Bool) (f : Node → Except ε α) (l : List Node)
    (h : ∀ x ∈ l, f (clean pc x) = f x) : (l.map (clean pc)).mapM f = l.mapM f := by
  rw [List.mapM_map]; exact mapM_congr _ _ l h

theorem map_clean_pcdata (pc : String → Bool) (loc : String) (hp : pc loc = true) (l : List Node)
    (h : ∀ n ∈ l, n.localIs loc = true) : l.map (clean pc) = l :=
  (List.map_congr_left fun n hn => clean_pcdata pc n loc (h n hn) hp).trans (List.map_id _)

theorem filter_localIs_cleanList_pcdata (pc : String → Bool) (loc : String) (hp : pc loc = true) (cs : List Node) :
    (cleanList pc cs).filter (·.localIs loc) = cs.filter (·.localIs loc) := by
  rw [filter_localIs_cleanList]
  exact map_clean_pcdata pc loc hp _ fun n hn => (List.mem_filter.mp hn).2

theorem filter_isElem_cleanList_pcdata (pc : String → Bool) (space loc : String) (hp : pc loc = true) (cs : List Node) :
    (cleanList pc cs).filter (·.isElem space loc) = cs.filter (·.isElem space loc) := by
  rw [filter_isElem_cleanList]
  exact map_clean_pcdata pc loc hp _ fun n hn => localIs_of_isElem (List.mem_filter.mp hn).2

end GoWebdav.Lemmas.Xml
