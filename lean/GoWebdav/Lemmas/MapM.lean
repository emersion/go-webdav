namespace GoWebdav.Lemmas

theorem mapM_congr {m : Type u → Type v} [Monad m] [LawfulMonad m] {α : Type w} {β : Type u} (f g : α → m β) (l : List α)
    (h : ∀ x ∈ l, f x = g x) : l.mapM f = l.mapM g := by
  induction l with
  | nil => rfl
  | cons a l ih =>
    obtain ⟨ha, hl⟩ := List.forall_mem_cons.mp h
    rw [List.mapM_cons, List.mapM_cons, ha, ih hl]

theorem mapM_eq_pure_map {m : Type u → Type v} [Monad m] [LawfulMonad m] {α : Type w} {β : Type u}
    (f : α → m β) (g : α → β) (l : List α) (h : ∀ x ∈ l, f x = pure (g x)) : l.mapM f = pure (l.map g) := by
  rw [mapM_congr f (fun x => pure (g x)) l h, List.mapM_pure]

theorem mapM_map_eq_pure {m : Type u → Type v} [Monad m] [LawfulMonad m] {α : Type u} {β : Type w}
    (enc : α → β) (dec : β → m α) (l : List α) (h : ∀ x ∈ l, dec (enc x) = pure x) : (l.map enc).mapM dec = pure l := by
  rw [List.mapM_map, mapM_eq_pure_map (dec ∘ enc) id l h, List.map_id]

/-- `F`: a recursion over a list that skips the elements failing `p` and collects `g` of the others -/
theorem eq_filter_mapM {m : Type u → Type v} [Monad m] [LawfulMonad m] {α : Type w} {β : Type u} (p : α → Bool)
    (g : α → m β) (F : List α → m (List β)) (hnil : F [] = pure [])
    (hcons : ∀ a l, F (a :: l) = if p a then (do let b ← g a; let bs ← F l; pure (b :: bs)) else F l) :
    ∀ l, F l = (l.filter p).mapM g
  | [] => by rw [hnil, List.filter_nil, List.mapM_nil]
  | a :: l => by
    rw [hcons, eq_filter_mapM p g F hnil hcons l, List.filter_cons]
    split <;> simp

end GoWebdav.Lemmas
