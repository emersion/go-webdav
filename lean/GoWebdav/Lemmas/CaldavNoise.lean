import GoWebdav.Lemmas.CaldavXml
/-!
The CalDAV query decoder does not see insignificant content: comments, and white space between the elements of an
element-content model, anywhere in a calendar-query document (`decodeQuery (clean n) = decodeQuery n` for EVERY tree
`n`, at any nesting depth).  The character data of text-match, href and timezone is left alone.

Every field of a decoder is filled from `pick loc children`, and `pick loc` of a cleaned child list is the cleaned
`pick loc` (`pick_clean`); so each decoder is invariant once the decoders of its fields are.
-/
namespace GoWebdav.Lemmas.CaldavNoise
open GoWebdav GoWebdav.Std.Xml GoWebdav.Impl.Caldav GoWebdav.Impl.CaldavWire GoWebdav.Spec.XmlNoise
open GoWebdav.Lemmas.Xml GoWebdav.Lemmas.CaldavWire

/-- the elements whose content is character data in RFC 4791 (`href` is DAV:href; the content of `timezone` is an iCalendar
    object, which the decoder never reads); they are told by local name, like the decoder's fields -/
def pc (loc : String) : Bool := loc = "text-match" || loc = "href" || loc = "timezone"

theorem pick_clean (loc : String) (cs : List Node) : pick loc (cleanList pc cs) = (pick loc cs).map (clean pc) :=
  filter_localIs_cleanList pc loc cs

theorem single_bind_clean {α : Type} (loc : String) (cs : List Node) (k : Option Node → Except Impl.CaldavWire.Err α)
    (hk : ∀ n, n.localIs loc = true → k (some (clean pc n)) = k (some n)) :
    (single loc (cleanList pc cs) >>= k) = (single loc cs >>= k) := by
  unfold single
  rw [pick_clean]
  match hp : pick loc cs with
  | [] => rfl
  | [n] => exact hk n (List.mem_filter.mp (hp ▸ List.mem_singleton_self n : n ∈ pick loc cs)).2
  | _ :: _ :: _ => rfl

theorem decRange_clean (n : Node) : decRange (clean pc n) = decRange n := clean_congr pc _ (fun _ _ _ _ => rfl) n

theorem decOptRange_clean (loc : String) (cs : List Node) : decOptRange loc (cleanList pc cs) = decOptRange loc cs :=
  single_bind_clean loc cs _ fun n _ => by simp only [decRange_clean]

theorem decOptTextMatch_clean (cs : List Node) : decOptTextMatch (cleanList pc cs) = decOptTextMatch cs := by
  unfold decOptTextMatch single pick
  rw [filter_localIs_cleanList_pcdata pc "text-match" rfl]

theorem hasInd_clean (cs : List Node) : hasInd (cleanList pc cs) = hasInd cs := by
  rw [hasInd_eq, hasInd_eq, pick_clean, List.isEmpty_map]

theorem nameAttr_irrelevant : True := trivial

theorem decParamFilter_clean (n : Node) : decParamFilter (clean pc n) = decParamFilter n :=
  clean_congr pc _ (fun q a cs _ => by simp only [decParamFilter, decOptTextMatch_clean, hasInd_clean]) n

theorem decPropFilter_clean (n : Node) : decPropFilter (clean pc n) = decPropFilter n :=
  clean_congr pc _ (fun q a cs _ => by
    simp only [decPropFilter, decOptRange_clean, decOptTextMatch_clean, hasInd_clean, pick_clean,
      mapM_map_clean pc _ _ (fun x _ => decParamFilter_clean x)]) n

theorem decCompFilter_clean (n : Node) : decCompFilter (clean pc n) = decCompFilter n :=
  clean_congr pc _ (fun q a cs ih => by
    simp only [decCompFilter, decOptRange_clean, hasInd_clean, pick_clean, decCompFilters_eq,
      mapM_map_clean pc _ _ (fun x _ => decPropFilter_clean x),
      mapM_map_clean pc _ (pick "comp-filter" cs) (fun x hx => ih x (List.mem_filter.mp hx).1)]) n

theorem decCompFilters_clean : ∀ (l : List Node), decCompFilters (cleanList pc l) = decCompFilters l := fun l => by
  rw [decCompFilters_eq, decCompFilters_eq, pick_clean]
  exact mapM_map_clean pc _ _ (fun x _ => decCompFilter_clean x)

theorem decPropName_clean (n : Node) : decPropName (clean pc n) = decPropName n := clean_congr pc _ (fun _ _ _ _ => rfl) n

theorem decComp_clean (n : Node) : decComp (clean pc n) = decComp n :=
  clean_congr pc _ (fun q a cs ih => by
    simp only [decComp, any_eq_pick, pick_clean, List.isEmpty_map, decComps_eq,
      mapM_map_clean pc _ _ (fun x _ => decPropName_clean x),
      mapM_map_clean pc _ (pick "comp" cs) (fun x hx => ih x (List.mem_filter.mp hx).1)]) n

theorem decComps_clean : ∀ (l : List Node), decComps (cleanList pc l) = decComps l := fun l => by
  rw [decComps_eq, decComps_eq, pick_clean]
  exact mapM_map_clean pc _ _ (fun x _ => decComp_clean x)

theorem decDataReq_clean (pcs : List Node) : decDataReq (cleanList pc pcs) = decDataReq pcs := by
  unfold decDataReq
  rw [find_cleanList pc _ (byName_isElem nsCal "calendar-data")]
  cases hf : pcs.find? (·.isElem nsCal "calendar-data") with
  | none => rfl
  | some n =>
    obtain ⟨q, a, cs, rfl, hc⟩ := clean_children pc n "calendar-data"
      (localIs_of_isElem (List.find?_some (p := fun x : Node => x.isElem nsCal "calendar-data") hf)) (by decide)
    simp only [Option.map_some, hc, decOptRange_clean]
    rw [single_bind_clean "comp" cs]
    -- left: the side condition of `single_bind_clean`
    intro c _
    simp only [decComp_clean]

theorem decPropReq_clean (cs : List Node) : decPropReq (cleanList pc cs) = decPropReq cs := by
  unfold decPropReq
  rw [filter_isElem_cleanList]
  have hall : ∀ x ∈ cs.filter (·.isElem nsDav "prop"), x.isElem nsDav "prop" = true := fun x hx => (List.mem_filter.mp hx).2
  generalize cs.filter (·.isElem nsDav "prop") = l at hall
  match l, hall with
  | [], _ => rfl
  | [n], hall =>
    obtain ⟨q, a, pcs, rfl, hc⟩ := clean_children pc n "prop" (localIs_of_isElem (hall n (by simp))) (by decide)
    simp only [List.map_cons, List.map_nil, hc]
    exact decDataReq_clean pcs
  | x :: y :: rest, _ =>
    simp only [List.map_cons]
    -- the match has to see that the list begins with two nodes, whatever the first one is
    cases clean pc x <;> rfl

theorem decodeQuery_clean (n : Node) : decodeQuery (clean pc n) = decodeQuery n :=
  clean_congr pc _ (fun name attrs cs _ => by
    simp only [decodeQuery, decPropReq_clean]
    rw [single_bind_clean "filter" cs]
    intro f hf
    obtain ⟨fq, fa, fc, rfl, hc⟩ := clean_children pc f "filter" hf (by decide)
    simp only [hc]
    rw [single_bind_clean "comp-filter" fc]
    intro c _
    simp only [decCompFilter_clean]) n

theorem decodeMultiGet_clean (unescape : String → Option String) (n : Node) :
    decodeMultiGet unescape (clean pc n) = decodeMultiGet unescape n :=
  clean_congr pc _ (fun name attrs cs _ => by
    simp only [decodeMultiGet, decPropReq_clean, filter_isElem_cleanList_pcdata pc nsDav "href" rfl]) n

end GoWebdav.Lemmas.CaldavNoise
