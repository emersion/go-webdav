import GoWebdav.Impl.RawXml
namespace GoWebdav.Lemmas.RawXml
open GoWebdav.Impl.RawXml

theorem parseChildren_add {f : Nat} {l : List Tok} {x : List Raw × List Tok} (h : parseChildren f l = some x) (k : Nat) :
    parseChildren (f + k) l = some x := by
  fun_induction parseChildren f l generalizing x with
  | case3 n t rest => rw [Nat.succ_add]; exact h  -- the end element
  | case4 n lf rest cs rest' hrest ih => rw [Nat.succ_add, parseChildren, ih hrest]; exact h  -- a leaf, then the rest
  | case6 n t rest inner rest' hinner cs rest'' hrest ihinner ihrest =>  -- an element: its children, then the rest
    rw [Nat.succ_add]; simp only [parseChildren, ihinner hinner, ihrest hrest]; exact h
  | _ => cases h  -- out of fuel, out of tokens, or a recursive call failed

theorem parseChildren_mono {f f' : Nat} {l : List Tok} {x : List Raw × List Tok} (h : parseChildren f l = some x)
    (hle : f ≤ f') : parseChildren f' l = some x := by
  obtain ⟨k, rfl⟩ := Nat.exists_eq_add_of_le hle
  exact parseChildren_add h k

-- Both recursive calls of `parseChildren` get the same fuel, while the induction hands back different amounts for the
-- children and for what follows them: hence the fuel `f + length`, and `parseChildren_mono` to level the two.
mutual
theorem parse_prepend : ∀ (r : Raw) (more : List Tok) (res : List Raw × List Tok) (f : Nat),
    parseChildren f more = some res →
    parseChildren (f + (flatten r).length) (flatten r ++ more) = some (r :: res.1, res.2)
  | .leaf l, more, res, f, h => by
    simp only [flatten, List.length_singleton, List.singleton_append, parseChildren, h]
  | .elem t inner, more, res, f, h => by
    have hin := parse_prependL inner (Tok.stop t :: more) ([], more) 1 rfl
    have e : f + (flatten (.elem t inner)).length = (f + (flattenL inner).length + 1) + 1 := by
      simp [flatten]; omega
    rw [e]
    simp only [flatten, List.cons_append, List.append_assoc, List.nil_append, parseChildren,
      parseChildren_mono hin (show _ ≤ f + (flattenL inner).length + 1 by omega),
      parseChildren_mono h (show _ ≤ f + (flattenL inner).length + 1 by omega), List.append_nil]
theorem parse_prependL : ∀ (cs : List Raw) (more : List Tok) (res : List Raw × List Tok) (f : Nat),
    parseChildren f more = some res →
    parseChildren (f + (flattenL cs).length) (flattenL cs ++ more) = some (cs ++ res.1, res.2)
  | [], more, res, f, h => by simpa [flattenL] using h
  | c :: cs, more, res, f, h => by
    have h2 := parse_prepend c (flattenL cs ++ more) _ _ (parse_prependL cs more res f h)
    simp only [flattenL, List.length_append, List.append_assoc, List.cons_append] at h2 ⊢
    exact parseChildren_mono h2 (by omega)
end

theorem parse_flatten (t : Tag) (cs : List Raw) (rest : List Tok) :
    parseElem (flatten (.elem t cs) ++ rest) = some (.elem t cs, rest) := by
  have h := parse_prependL cs (Tok.stop t :: rest) ([], rest) 1 rfl
  simp only [parseElem, flatten, List.cons_append, List.append_assoc, List.nil_append]
  rw [parseChildren_mono h (by simp; omega)]; simp

mutual
theorem balanced_flatten : ∀ (r : Raw) (st : List Tag) (rest : List Tok),
    balanced st (flatten r ++ rest) = balanced st rest
  | .leaf l, st, rest => by simp [flatten, balanced]
  | .elem t cs, st, rest => by
    simp only [flatten, List.cons_append, List.append_assoc, List.nil_append, balanced]
    rw [balanced_flattenL cs (t :: st) (Tok.stop t :: rest)]
    simp [balanced]
theorem balanced_flattenL : ∀ (cs : List Raw) (st : List Tag) (rest : List Tok),
    balanced st (flattenL cs ++ rest) = balanced st rest
  | [], st, rest => by simp [flattenL]
  | c :: cs, st, rest => by
    simp only [flattenL, List.append_assoc]
    rw [balanced_flatten c st _, balanced_flattenL cs st rest]
end

/-- tokens still to be produced by a reader in a consistent state -/
def remaining : Reader → List Tok
  | .mk _ _ true _ _ => []
  | .mk (.leaf t) _ false _ _ => [.leaf t]
  | .mk (.elem n cs) false false _ _ => flatten (.elem n cs)
  | .mk (.elem n cs) true false c none => flattenL (cs.drop c) ++ [.stop n]
  | .mk (.elem n cs) true false c (some r) => remaining r ++ flattenL (cs.drop (c + 1)) ++ [.stop n]

def valOf : Reader → Raw | .mk v _ _ _ _ => v
/-- consistency: a reader that has not started has entered no child; an existing child reader reads children[child] -/
def Consistent : Reader → Prop
  | .mk _ s _ c none => s = false → c = 0
  | .mk (.leaf _) _ _ _ (some _) => False
  | .mk (.elem _ cs) s e c (some r) => s = true ∧ e = false ∧ cs[c]? = some (valOf r) ∧ Consistent r

theorem remaining_fresh (v : Raw) : remaining (fresh v) = flatten v := by
  cases v <;> simp [fresh, remaining, flatten]

theorem firstToken_spec (v : Raw) :
    flatten v = (firstToken v).1 :: remaining (firstToken v).2 ∧ Consistent (firstToken v).2 ∧ valOf (firstToken v).2 = v := by
  cases v with
  | leaf t => simp [remaining, firstToken, Consistent, valOf, flatten]
  | elem n cs => simp [remaining, firstToken, Consistent, valOf, flatten]

theorem next_eq_none (val : Raw) (s e : Bool) (c : Nat) (hc : Consistent (.mk val s e c none)) :
    ∃ r', next (.mk val s e c none) = ((remaining (.mk val s e c none)).head?, r') ∧
      remaining r' = (remaining (.mk val s e c none)).tail ∧ Consistent r' ∧ valOf r' = val := by
  simp only [Consistent] at hc
  cases e
  · cases val with
    | leaf t => exact ⟨_, rfl, rfl, hc, rfl⟩
    | elem n cs =>
      cases s
      · cases hc rfl
        exact ⟨_, rfl, by simp [remaining, flatten], by simp [Consistent], rfl⟩
      · -- between children: open child `c` if there is one, else close the element
        simp only [next, stepR, remaining]
        cases hget : cs[c]? with
        | none =>
          rw [List.drop_eq_nil_of_le (List.getElem?_eq_none_iff.mp hget)]
          exact ⟨_, rfl, rfl, nofun, rfl⟩
        | some ch =>
          obtain ⟨hi, rfl⟩ := List.getElem?_eq_some_iff.mp hget
          obtain ⟨h1, h2, h3⟩ := firstToken_spec cs[c]
          rw [List.drop_eq_getElem_cons hi, flattenL, h1]
          exact ⟨_, rfl, by simp [remaining], ⟨rfl, rfl, by rw [h3]; exact hget, h2⟩, rfl⟩
  · exact ⟨_, rfl, rfl, hc, rfl⟩

/-- the invariant of the state machine: each `Token()` emits the head of `remaining` (nothing if that is empty) and
    leaves a consistent reader of the same value on the tail -/
theorem next_eq : ∀ r : Reader, Consistent r →
    ∃ r', next r = ((remaining r).head?, r') ∧ remaining r' = (remaining r).tail ∧ Consistent r' ∧ valOf r' = valOf r
  | .mk val s e c none, hc => next_eq_none val s e c hc
  | .mk (.leaf _) _ _ _ (some _), hc => hc.elim
  | .mk (.elem n cs) s e c (some r), hc => by
    obtain ⟨rfl, rfl, hget, hr⟩ := hc
    obtain ⟨r', hn, h2, h3, h4⟩ := next_eq r hr
    simp only [next, hn, remaining]
    cases hrem : remaining r with
    | nil =>
      -- EOF from the child reader (`tr.childReader = nil; tr.child++` and round the loop again): the reader goes on
      -- as the one with index `c + 1` and no child reader open
      exact next_eq_none (.elem n cs) true false (c + 1) nofun
    | cons t ts =>
      rw [hrem] at h2
      exact ⟨_, rfl, by simp [remaining, h2], ⟨rfl, rfl, by rw [h4]; exact hget, h3⟩, rfl⟩

theorem next_spec : ∀ r : Reader, Consistent r →
    (remaining r = [] → (next r).1 = none) ∧
    (∀ t ts, remaining r = t :: ts → (next r).1 = some t ∧ remaining (next r).2 = ts ∧ Consistent (next r).2 ∧ valOf (next r).2 = valOf r) := by
  intro r hc
  obtain ⟨r', hn, h2, h3, h4⟩ := next_eq r hc
  rw [hn]
  exact ⟨fun h => by rw [h]; rfl, fun t ts h => by rw [h] at h2 ⊢; exact ⟨rfl, h2, h3, h4⟩⟩

theorem drain_spec (r : Reader) (hc : Consistent r) (fuel : Nat) (hf : (remaining r).length < fuel) :
    drain fuel r = remaining r := by
  induction fuel generalizing r with
  | zero => omega
  | succ n ih =>
    obtain ⟨r', hn, h2, h3, _⟩ := next_eq r hc
    rw [drain, hn]
    cases hrem : remaining r with
    | nil => rfl
    | cons t ts =>
      rw [hrem] at h2 hf
      show t :: drain n r' = t :: ts
      rw [ih r' h3 (by rw [h2]; simpa using hf), h2]
      rfl

end GoWebdav.Lemmas.RawXml
