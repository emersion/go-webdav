/-! Shared basics for the models (core Lean only). -/
deriving instance DecidableEq for Except

namespace GoWebdav
abbrev Bytes := List UInt8

/-- element-wise relation between two lists (core Lean has no `List.Forall₂`) -/
inductive Forall2 {α β} (R : α → β → Prop) : List α → List β → Prop
  | nil : Forall2 R [] []
  | cons {a b as bs} : R a b → Forall2 R as bs → Forall2 R (a :: as) (b :: bs)

theorem Forall2.length_eq {α β} {R : α → β → Prop} {l₁ : List α} {l₂ : List β} (h : Forall2 R l₁ l₂) :
    l₁.length = l₂.length := by
  induction h with
  | nil => rfl
  | cons _ _ ih => simp [ih]

theorem Forall2.append {α β} {R : α → β → Prop} {a₁ a₂ : List α} {b₁ b₂ : List β}
    (h₁ : Forall2 R a₁ b₁) (h₂ : Forall2 R a₂ b₂) : Forall2 R (a₁ ++ a₂) (b₁ ++ b₂) := by
  induction h₁ with
  | nil => exact h₂
  | cons h _ ih => exact .cons h ih

theorem Forall2.map {α β γ} {R : β → γ → Prop} (l : List α) (f : α → β) (g : α → γ) (h : ∀ x ∈ l, R (f x) (g x)) :
    Forall2 R (l.map f) (l.map g) := by
  induction l with
  | nil => exact .nil
  | cons a as ih => exact .cons (h a (by simp)) (ih fun x hx => h x (List.mem_cons_of_mem _ hx))

theorem Forall2.mapM {α β ε} {R : α → β → Prop} {f : α → Except ε β} (l : List α)
    (h : ∀ a ∈ l, ∃ b, f a = .ok b ∧ R a b) : ∃ bs, l.mapM f = .ok bs ∧ Forall2 R l bs := by
  induction l with
  | nil => exact ⟨[], rfl, .nil⟩
  | cons a as ih =>
    obtain ⟨b, hb, hr⟩ := h a (by simp)
    obtain ⟨bs, hbs, hrs⟩ := ih fun x hx => h x (List.mem_cons_of_mem _ hx)
    exact ⟨b :: bs, by rw [List.mapM_cons, hb, hbs]; rfl, .cons hr hrs⟩

theorem any_eq_filter {α : Type} (p : α → Bool) (l : List α) : l.any p = !(l.filter p).isEmpty := by
  induction l with
  | nil => rfl
  | cons a l ih => simp only [List.any_cons, List.filter_cons]; cases p a <;> simp [ih]

end GoWebdav
