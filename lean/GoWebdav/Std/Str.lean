import GoWebdav.Std.Basic
/-! String predicates of Go's `strings` package, on character lists (`String.toList`). For valid UTF-8
    text byte-wise and rune-wise substring/prefix/suffix tests coincide (UTF-8 is self-synchronising). -/
namespace GoWebdav.Std.Str

/-- `strings.Contains(l, p)` -/
def containsL {α} [BEq α] : List α → List α → Bool
  | [], p => p.isEmpty
  | c :: cs, p => p.isPrefixOf (c :: cs) || containsL cs p

def contains (s p : String) : Bool := containsL s.toList p.toList
def hasPrefix (s p : String) : Bool := p.toList.isPrefixOf s.toList
def hasSuffix (s p : String) : Bool := p.toList.isSuffixOf s.toList

theorem containsL_iff {α} [BEq α] [LawfulBEq α] (l p : List α) : containsL l p = true ↔ p <:+: l := by
  induction l with
  | nil =>
    cases p <;> simp [containsL]
  | cons c cs ih =>
    simp only [containsL, Bool.or_eq_true, ih, List.isPrefixOf_iff_prefix, List.infix_cons_iff]

end GoWebdav.Std.Str

namespace GoWebdav.Std.Str
/-- `strings.ToUpper` restricted to ASCII letters (names of iCalendar properties and parameters) -/
def upperChar (c : Char) : Char := if 97 ≤ c.toNat ∧ c.toNat ≤ 122 then Char.ofNat (c.toNat - 32) else c
def toUpper (s : String) : String := String.ofList (s.toList.map upperChar)
end GoWebdav.Std.Str
