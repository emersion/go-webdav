import GoWebdav.Std.Basic
/-!
`strconv.Quote` (`fmt`'s `%q`) and `strconv.Unquote` (the double-quoted form) over the decoded view of a Go string.

A Go string is an arbitrary byte string; `for _, r := range s` sees it as a sequence of valid runes and
stray bytes (`GoRune`).  `quote` is parameterised by Go's `unicode.IsPrint` table (`p`): the round-trip
theorem holds for EVERY table with `p '\n' = false`.
-/
namespace GoWebdav.Std.Quote

/-- one item of a Go string as `for _, r := range s` sees it -/
inductive GoRune where
  | valid (c : Char)
  | bad (b : UInt8)          -- a byte that is not part of a valid UTF-8 sequence
deriving DecidableEq, Repr

/-- output alphabet of unquote: runes to be UTF-8 encoded, or raw bytes (from `\x` / octal escapes) -/
inductive Out where
  | rune (c : Char)
  | byte (b : UInt8)
deriving DecidableEq, Repr

def hexDigit (n : Nat) : Char := if n < 10 then Char.ofNat (48 + n) else Char.ofNat (87 + n)   -- lower-case, as Go
def hexVal (c : Char) : Option Nat :=
  let n := c.toNat
  if 48 ≤ n ∧ n ≤ 57 then some (n - 48)
  else if 97 ≤ n ∧ n ≤ 102 then some (n - 87)
  else if 65 ≤ n ∧ n ≤ 70 then some (n - 55)
  else none

theorem hexVal_hexDigit : ∀ n < 16, hexVal (hexDigit n) = some n := by decide

theorem hexVal_hexDigit_mod (n : Nat) : hexVal (hexDigit (n % 16)) = some (n % 16) :=
  hexVal_hexDigit _ (Nat.mod_lt n (by decide))

def hex2 (n : Nat) : List Char := [hexDigit (n / 16), hexDigit (n % 16)]
def hex4 (n : Nat) : List Char := [hexDigit (n / 4096), hexDigit (n / 256 % 16), hexDigit (n / 16 % 16), hexDigit (n % 16)]

/-- what `appendEscapedRune` does for a valid rune that is neither quote nor backslash nor printable -/
def escapeCtl (c : Char) : List Char :=
  if c = '\x07' then ['\\', 'a'] else if c = '\x08' then ['\\', 'b'] else if c = '\x0c' then ['\\', 'f']
  else if c = '\n' then ['\\', 'n'] else if c = '\r' then ['\\', 'r'] else if c = '\t' then ['\\', 't']
  else if c = '\x0b' then ['\\', 'v']
  else if c.toNat < 128 then '\\' :: 'x' :: hex2 c.toNat
  else if c.toNat < 65536 then '\\' :: 'u' :: hex4 c.toNat
  else ['\\', 'U'] ++ hex4 (c.toNat / 65536) ++ hex4 (c.toNat % 65536)

def quoteRune (p : Char → Bool) : GoRune → List Char
  | .bad b => '\\' :: 'x' :: hex2 b.toNat
  | .valid c =>
    if c = '"' ∨ c = '\\' then ['\\', c]
    else if p c then [c]
    else escapeCtl c

def quoteBody (p : Char → Bool) : List GoRune → List Char
  | [] => []
  | r :: rs => quoteRune p r ++ quoteBody p rs

/-- `strconv.Quote(s)` -/
def quote (p : Char → Bool) (rs : List GoRune) : List Char := '"' :: (quoteBody p rs ++ ['"'])

def isShortCtl (c : Char) : Bool :=
  c = '\x07' || c = '\x08' || c = '\x0c' || c = '\n' || c = '\r' || c = '\t' || c = '\x0b'

/-- expected result of unquoting: valid runes stay runes; bad bytes and ASCII escaped via `\x` come back as bytes -/
def expect (p : Char → Bool) : GoRune → Out
  | .bad b => .byte b
  | .valid c =>
    if c = '"' ∨ c = '\\' then .rune c
    else if p c then .rune c
    else if isShortCtl c then .rune c
    else if c.toNat < 128 then .byte (UInt8.ofNat c.toNat) else .rune c

def val2 (a b : Char) : Option Nat := do let x ← hexVal a; let y ← hexVal b; pure (16 * x + y)
def val4 (a b c d : Char) : Option Nat := do
  let w ← hexVal a; let x ← hexVal b; let y ← hexVal c; let z ← hexVal d; pure (4096 * w + 256 * x + 16 * y + z)

def mkRune (n : Nat) : Option Out :=
  if h : n.isValidChar then some (.rune ⟨n.toUInt32, by
    have := h; simp [Nat.isValidChar] at this; simp [UInt32.isValidChar, Nat.toUInt32, UInt32.toNat_ofNat']; omega⟩) else none

def octVal (c : Char) : Option Nat := if 48 ≤ c.toNat ∧ c.toNat ≤ 55 then some (c.toNat - 48) else none

/-- body of a double-quoted Go string literal (no surrounding quotes), structural on the list -/
def unquoteBody : List Char → Option (List Out)
  | [] => some []
  | '\\' :: 'a' :: rest => (unquoteBody rest).map (Out.rune '\x07' :: ·)
  | '\\' :: 'b' :: rest => (unquoteBody rest).map (Out.rune '\x08' :: ·)
  | '\\' :: 'f' :: rest => (unquoteBody rest).map (Out.rune '\x0c' :: ·)
  | '\\' :: 'n' :: rest => (unquoteBody rest).map (Out.rune '\n' :: ·)
  | '\\' :: 'r' :: rest => (unquoteBody rest).map (Out.rune '\r' :: ·)
  | '\\' :: 't' :: rest => (unquoteBody rest).map (Out.rune '\t' :: ·)
  | '\\' :: 'v' :: rest => (unquoteBody rest).map (Out.rune '\x0b' :: ·)
  | '\\' :: '\\' :: rest => (unquoteBody rest).map (Out.rune '\\' :: ·)
  | '\\' :: '"' :: rest => (unquoteBody rest).map (Out.rune '"' :: ·)
  | '\\' :: 'x' :: a :: b :: rest =>
    match val2 a b with
    | some n => (unquoteBody rest).map (Out.byte (UInt8.ofNat n) :: ·)
    | none => none
  | '\\' :: 'u' :: a :: b :: c :: d :: rest =>
    match (val4 a b c d).bind mkRune with
    | some o => (unquoteBody rest).map (o :: ·)
    | none => none
  | '\\' :: 'U' :: a :: b :: c :: d :: e :: f :: g :: h :: rest =>
    match (do let hi ← val4 a b c d; let lo ← val4 e f g h; mkRune (65536 * hi + lo)) with
    | some o => (unquoteBody rest).map (o :: ·)
    | none => none
  | '\\' :: a :: b :: c :: rest =>
    -- octal escape `\ddd` (three octal digits, value ≤ 255); everything else after a backslash is a syntax error
    match (do let x ← octVal a; let y ← octVal b; let z ← octVal c; pure (64 * x + 8 * y + z)) with
    | some n => if n ≤ 255 then (unquoteBody rest).map (Out.byte (UInt8.ofNat n) :: ·) else none
    | none => none
  | '\\' :: _ => none
  | c :: rest => if c = '"' ∨ c = '\n' then none else (unquoteBody rest).map (Out.rune c :: ·)

/-- `strconv.Unquote` restricted to the double-quoted form (what `ETag.UnmarshalText` accepts) -/
def unquote (s : List Char) : Option (List Out) :=
  match s with
  | c :: rest => if c = '"' ∧ rest.getLast? = some '"' then unquoteBody rest.dropLast else none
  | [] => none

theorem val2_hex2 (n : Nat) (h : n < 256) : val2 (hexDigit (n / 16)) (hexDigit (n % 16)) = some n := by
  simp only [val2, hexVal_hexDigit (n / 16) (by omega), hexVal_hexDigit_mod, bind, Option.bind, pure]
  congr 1; omega

theorem val4_hex4 (n : Nat) (h : n < 65536) :
    val4 (hexDigit (n / 4096)) (hexDigit (n / 256 % 16)) (hexDigit (n / 16 % 16)) (hexDigit (n % 16)) = some n := by
  simp only [val4, hexVal_hexDigit (n / 4096) (by omega), hexVal_hexDigit_mod, bind, Option.bind, pure]
  congr 1; omega

theorem mkRune_char (c : Char) : mkRune c.toNat = some (Out.rune c) := by
  unfold mkRune
  have hv : c.toNat.isValidChar := c.valid
  simp [hv]
  apply Char.ext
  show UInt32.ofNat c.val.toNat = c.val
  exact UInt32.ofNat_toNat

end GoWebdav.Std.Quote
