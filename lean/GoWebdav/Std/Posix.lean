import GoWebdav.Std.Path
/-!
A POSIX-like file system as the ten `os`/`filepath` calls of fs_local.go see it, restricted to the served
directory: a finite map from paths (segment lists below the served root; `[]` is the root itself) to entries,
represented as an association list with first-match lookup.  `set` conses, so
`lookup (set t p e) q = if p = q then some e else lookup t q` holds unconditionally; removal filters every occurrence.

Not modelled: permissions, symbolic and hard links, concurrent writers, disk-full and I/O errors, mtime.
After the `fix:` commits ENOENT and ENOTDIR are treated alike by go-webdav (404 for the addressed resource,
409 for a destination parent), so the model only distinguishes "resolves" from "does not resolve".
-/
namespace GoWebdav.Std.Posix
open GoWebdav GoWebdav.Std.Path

abbrev Name := Seg
abbrev FPath := List Name

inductive Entry where
  | file (content : Bytes)
  | dir
deriving DecidableEq, Repr

abbrev FS := List (FPath × Entry)

def lookup (t : FS) (p : FPath) : Option Entry := (t.find? (fun x => x.1 == p)).map (·.2)

def set (t : FS) (p : FPath) (e : Entry) : FS := (p, e) :: t

/-- `os.RemoveAll`: every entry at or below `p` -/
def removeAll (t : FS) (p : FPath) : FS := t.filter (fun x => !(p.isPrefixOf x.1))

/-- the parent collection a create/mkdir/rename of `p` needs; the root's own parent is the host directory -/
def parentOK (t : FS) (p : FPath) : Bool :=
  match p with
  | [] => true
  | _ => lookup t p.dropLast = some .dir

/-- the entries at or below `src`, re-addressed below `dst` (what the COPY walk creates, what `rename` moves) -/
def rebased (t : FS) (src dst : FPath) : FS :=
  (t.filter (fun x => src.isPrefixOf x.1)).map (fun x => (dst ++ x.1.drop src.length, x.2))

/-- deep copy of the subtree at `src` to `dst` -/
def graft (t : FS) (src dst : FPath) : FS := rebased t src dst ++ t

/-- every visible entry other than the root sits in a visible directory -/
def WF (t : FS) : Prop := ∀ p e, lookup t p = some e → p ≠ [] → lookup t p.dropLast = some .dir

/-- two states with the same visible content -/
def Same (t t' : FS) : Prop := ∀ p, lookup t p = lookup t' p

@[simp] theorem lookup_set (t : FS) (p q : FPath) (e : Entry) :
    lookup (set t p e) q = if p = q then some e else lookup t q := by
  unfold lookup set
  by_cases h : p = q
  · simp [h]
  · have : (p == q) = false := by simpa using h
    simp [this, h]

theorem lookup_removeAll (t : FS) (p q : FPath) :
    lookup (removeAll t p) q = if p.isPrefixOf q then none else lookup t q := by
  unfold lookup removeAll
  -- an entry found at `q` after filtering is an entry at `q` that passes the filter: a test on `q` itself
  have : (fun x : FPath × Entry => decide ((!p.isPrefixOf x.1) = true ∧ (x.1 == q) = true)) =
      fun x => !p.isPrefixOf q && x.1 == q := by
    funext x; by_cases h : x.1 = q <;> simp [h]
  rw [List.find?_filter, this]
  cases p.isPrefixOf q <;> simp

theorem lookup_append (a b : FS) (q : FPath) : lookup (a ++ b) q = (lookup a q).or (lookup b q) := by
  unfold lookup
  rw [List.find?_append, Option.map_or]

theorem prefix_self (p : FPath) : p.isPrefixOf p = true := by
  rw [List.isPrefixOf_iff_prefix]; exact List.prefix_refl p

theorem ne_of_not_prefix {p q : FPath} (h : p.isPrefixOf q = false) : p ≠ q := by
  rintro rfl; rw [prefix_self] at h; cases h

theorem prefix_append (p x : FPath) : p.isPrefixOf (p ++ x) = true := by
  rw [List.isPrefixOf_iff_prefix]; exact List.prefix_append p x

theorem prefix_drop (a q : FPath) (h : a.isPrefixOf q = true) : a ++ q.drop a.length = q := by
  rw [List.isPrefixOf_iff_prefix] at h
  obtain ⟨r, rfl⟩ := h
  simp

theorem lookup_rebased (t : FS) (src dst q : FPath) :
    lookup (rebased t src dst) q = if dst.isPrefixOf q then lookup t (src ++ q.drop dst.length) else none := by
  unfold rebased lookup
  -- an entry of `t` lands on `q` iff `q` is below `dst` and the entry sits at the corresponding place below `src`
  have : (fun x : FPath × Entry => decide (src.isPrefixOf x.1 = true ∧ (dst ++ x.1.drop src.length == q) = true)) =
      fun x => dst.isPrefixOf q && x.1 == src ++ q.drop dst.length := by
    funext x
    rw [Bool.eq_iff_iff]
    simp only [decide_eq_true_eq, beq_iff_eq, Bool.and_eq_true]
    constructor
    · rintro ⟨hs, rfl⟩
      exact ⟨prefix_append _ _, by simp [prefix_drop src x.1 hs]⟩
    · rintro ⟨hd, hx⟩
      rw [hx]
      exact ⟨prefix_append _ _, by simp [prefix_drop dst q hd]⟩
  rw [List.find?_map, List.find?_filter]
  simp only [Function.comp_def, this, Option.map_map]
  cases dst.isPrefixOf q with
  | false =>
    simp only [Bool.false_and, Bool.false_eq_true, if_false]
    rw [List.find?_eq_none.mpr (fun _ _ => Bool.false_ne_true)]; rfl
  | true => simp only [Bool.true_and, if_true]

theorem lookup_graft (t : FS) (src dst q : FPath) :
    lookup (graft t src dst) q =
      if dst.isPrefixOf q then (lookup t (src ++ q.drop dst.length)).or (lookup t q) else lookup t q := by
  unfold graft
  rw [lookup_append, lookup_rebased]
  split <;> rfl

theorem lookup_graft_below (t : FS) (src dst x : FPath) :
    lookup (graft t src dst) (dst ++ x) = (lookup t (src ++ x)).or (lookup t (dst ++ x)) := by
  rw [lookup_graft, prefix_append, if_pos rfl, List.drop_left]

theorem lookup_set_off (t : FS) (p q : FPath) (e : Entry) (h : p.isPrefixOf q = false) : lookup (set t p e) q = lookup t q := by
  rw [lookup_set, if_neg (ne_of_not_prefix h)]

theorem lookup_removeAll_off (t : FS) (p q : FPath) (h : p.isPrefixOf q = false) : lookup (removeAll t p) q = lookup t q := by
  rw [lookup_removeAll, h]; rfl

theorem lookup_removeAll_self (t : FS) (p : FPath) : lookup (removeAll t p) p = none := by
  rw [lookup_removeAll, prefix_self]; rfl

theorem lookup_graft_off (t : FS) (src dst q : FPath) (h : dst.isPrefixOf q = false) : lookup (graft t src dst) q = lookup t q := by
  rw [lookup_graft, h]; rfl

theorem mem_of_lookup {t : FS} {p : FPath} {e : Entry} (h : lookup t p = some e) : (p, e) ∈ t := by
  unfold lookup at h
  obtain ⟨x, hf, rfl⟩ := Option.map_eq_some_iff.mp h
  have hx : x.1 = p := by simpa using List.find?_some hf
  exact hx ▸ List.mem_of_find?_eq_some hf

theorem same_refl (t : FS) : Same t t := fun _ => rfl

theorem not_prefix_dropLast (d : FPath) (hne : d ≠ []) : d.isPrefixOf d.dropLast = false := by
  rw [← Bool.not_eq_true, List.isPrefixOf_iff_prefix]
  intro h
  have hle := h.length_le
  have hpos := List.length_pos_iff.mpr hne
  rw [List.length_dropLast] at hle
  omega

theorem off_dropLast {p q : FPath} (h : p.isPrefixOf q = false) : p.isPrefixOf q.dropLast = false := by
  cases h' : p.isPrefixOf q.dropLast with
  | false => rfl
  | true =>
    -- a prefix of `q.dropLast` is a prefix of `q`, against `h`
    rw [List.isPrefixOf_iff_prefix] at h'
    exact absurd (List.isPrefixOf_iff_prefix.mpr (h'.trans (List.dropLast_prefix q))) (by simp [h])

theorem dir_of_parentOK {t : FS} {p : FPath} (hpar : parentOK t p = true) (hne : p ≠ []) : lookup t p.dropLast = some .dir := by
  cases p with
  | nil => exact absurd rfl hne
  | cons a as => simpa [parentOK] using hpar

theorem parentOK_congr (t t' : FS) (p : FPath) (h : p ≠ [] → lookup t p.dropLast = lookup t' p.dropLast) :
    parentOK t p = parentOK t' p := by
  cases p with
  | nil => rfl
  | cons a as => simp only [parentOK]; rw [h (by simp)]

theorem parentOK_removeAll (t : FS) (d : FPath) : parentOK (removeAll t d) d = parentOK t d :=
  parentOK_congr _ _ d (fun hne => lookup_removeAll_off t d _ (not_prefix_dropLast d hne))

/-- the tree `copyMove` works on: `t` with an existing destination `d` removed -/
theorem parentOK_freed (t : FS) (d : FPath) (c : Prop) [Decidable c] :
    parentOK (if c then removeAll t d else t) d = parentOK t d := by
  split
  · exact parentOK_removeAll t d
  · rfl

theorem parentOK_of_exists (t : FS) (hwf : WF t) (d : FPath) (e : Entry) (h : lookup t d = some e) : parentOK t d = true := by
  cases d with
  | nil => rfl
  | cons a as =>
    simp only [parentOK]
    simpa using hwf _ e h (by simp)

theorem absent_of_no_parent (t : FS) (hwf : WF t) (d : FPath) (h : parentOK t d = false) : lookup t d = none := by
  cases hl : lookup t d with
  | none => rfl
  | some e => rw [parentOK_of_exists t hwf d e hl] at h; cases h

/-- it is enough to find the parent collection of every listed entry: a check `decide` can make on a concrete tree -/
theorem wf_of_entries (t : FS) (h : ∀ x ∈ t, x.1 ≠ [] → lookup t x.1.dropLast = some .dir) : WF t :=
  fun p e hl hne => h (p, e) (mem_of_lookup hl) hne

theorem wf_absent_below (t : FS) (hwf : WF t) (p : FPath) (hp : lookup t p = none) :
    ∀ q, p.isPrefixOf q = true → lookup t q = none := by
  intro q hq
  obtain ⟨r, rfl⟩ := List.isPrefixOf_iff_prefix.mp hq
  clear hq
  -- one segment at a time: an entry whose parent is absent is absent
  induction r generalizing p with
  | nil => rw [List.append_nil]; exact hp
  | cons a r ih =>
    rw [List.append_cons]
    apply ih
    cases hl : lookup t (p ++ [a]) with
    | none => rfl
    | some e =>
      have hpar := hwf _ e hl (by simp)
      rw [List.dropLast_concat, hp] at hpar
      cases hpar

theorem same_removeAll_absent (t : FS) (hwf : WF t) (p : FPath) (hp : lookup t p = none) : Same (removeAll t p) t := by
  intro q
  rw [lookup_removeAll]
  by_cases hq : p.isPrefixOf q = true
  · simp [hq, wf_absent_below t hwf p hp q hq]
  · simp [hq]

/-- `hkeep`: no collection becomes a file -/
theorem wf_set (t : FS) (hwf : WF t) (p : FPath) (e : Entry) (hpar : parentOK t p = true)
    (hkeep : lookup t p = some .dir → e = .dir) : WF (set t p e) := by
  intro q e' hq hne
  rw [lookup_set] at hq ⊢
  by_cases hpq : p = q
  · subst hpq
    rw [if_neg (ne_of_not_prefix (not_prefix_dropLast p hne))]
    exact dir_of_parentOK hpar hne
  · rw [if_neg hpq] at hq
    have hparent := hwf q e' hq hne
    by_cases hpd : p = q.dropLast
    · rw [if_pos hpd, hkeep (hpd ▸ hparent)]
    · rw [if_neg hpd]; exact hparent

theorem wf_removeAll (t : FS) (hwf : WF t) (p : FPath) : WF (removeAll t p) := by
  intro q e hq hne
  rw [lookup_removeAll] at hq ⊢
  cases hpq : p.isPrefixOf q with
  | true => rw [hpq] at hq; cases hq
  | false =>
    rw [hpq] at hq
    rw [off_dropLast hpq]
    exact hwf q e hq hne

theorem wf_graft (t : FS) (hwf : WF t) (src dst : FPath) (hfree : lookup t dst = none) (hpar : parentOK t dst = true) :
    WF (graft t src dst) := by
  intro q e hq hne
  cases hdq : dst.isPrefixOf q with
  | false =>
    rw [lookup_graft_off t src dst q hdq] at hq
    rw [lookup_graft_off t src dst _ (off_dropLast hdq)]
    exact hwf q e hq hne
  | true =>
    obtain ⟨x, rfl⟩ := List.isPrefixOf_iff_prefix.mp hdq
    -- nothing of `t` is visible below the free destination, so the entry is the image of the one at `src ++ x`
    rw [lookup_graft_below, wf_absent_below t hwf dst hfree _ hdq, Option.or_none] at hq
    rcases List.eq_nil_or_concat x with rfl | ⟨x', a, rfl⟩
    · -- the destination itself: its parent is not below it
      rw [List.append_nil] at hne ⊢
      rw [lookup_graft_off t src dst _ (not_prefix_dropLast dst hne)]
      exact dir_of_parentOK hpar hne
    · -- a proper descendant: its parent is the image of the source entry's parent
      have hsp := hwf _ e hq (by simp)
      rw [List.concat_eq_append, ← List.append_assoc, List.dropLast_concat] at hsp ⊢
      rw [lookup_graft_below, hsp]
      rfl

end GoWebdav.Std.Posix
