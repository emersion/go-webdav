import GoWebdav.Std.Xml
/-!
Insignificant content of an XML document at tree level: comments anywhere, and white-space-only character data, inside
elements whose content model is element content.  `clean` removes it, leaving elements whose content is character data
(`pcdata`, given by local name) exactly as they are — there every character counts.
-/
namespace GoWebdav.Spec.XmlNoise
open GoWebdav GoWebdav.Std.Xml

def isWs (c : Char) : Bool := c = ' ' || c = '\n' || c = '\t' || c = '\r'

def noise : Node → Bool
  | .text s => s.toList.all isWs
  | .comment _ => true
  | .elem _ _ _ => false

mutual
def clean (pcdata : String → Bool) : Node → Node
  | .elem q a cs => if pcdata q.loc then .elem q a cs else .elem q a (cleanList pcdata cs)
  | n => n
def cleanList (pcdata : String → Bool) : List Node → List Node
  | [] => []
  | c :: cs => if noise c then cleanList pcdata cs else clean pcdata c :: cleanList pcdata cs
end

/-- a predicate that looks at the name of an element only (and is false of non-elements) -/
def ByName (p : Node → Bool) : Prop :=
  (∀ q a cs a' cs', p (.elem q a cs) = p (.elem q a' cs')) ∧ (∀ s, p (.text s) = false) ∧ (∀ s, p (.comment s) = false)

theorem ByName.of_clean {p : Node → Bool} (hp : ByName p) (pc : String → Bool) (n : Node) : p (clean pc n) = p n := by
  fun_cases clean pc n with
  | case2 q a cs => exact hp.1 q a _ a cs   -- an element whose children are cleaned
  | _ => rfl

theorem ByName.of_noise {p : Node → Bool} (hp : ByName p) (n : Node) (h : noise n = true) : p n = false := by
  cases n with
  | elem q a cs => simp [noise] at h
  | text s => exact hp.2.1 s
  | comment s => exact hp.2.2 s

theorem filter_cleanList (pc : String → Bool) (p : Node → Bool) (hp : ByName p) (cs : List Node) :
    (cleanList pc cs).filter p = (cs.filter p).map (clean pc) := by
  induction cs with
  | nil => simp [cleanList]
  | cons c cs ih =>
    simp only [cleanList]
    by_cases hn : noise c = true
    · simp only [hn, if_true, ih, List.filter_cons, hp.of_noise c hn, Bool.false_eq_true, if_false]
    · simp only [hn, Bool.false_eq_true, if_false, List.filter_cons, hp.of_clean pc c, ih]
      by_cases hpc : p c = true <;> simp [hpc]

theorem any_cleanList (pc : String → Bool) (p : Node → Bool) (hp : ByName p) (cs : List Node) :
    (cleanList pc cs).any p = cs.any p := by
  rw [any_eq_filter, any_eq_filter, filter_cleanList pc p hp, List.isEmpty_map]

theorem find_cleanList (pc : String → Bool) (p : Node → Bool) (hp : ByName p) (cs : List Node) :
    (cleanList pc cs).find? p = (cs.find? p).map (clean pc) := by
  rw [← List.head?_filter, filter_cleanList pc p hp, List.head?_map, List.head?_filter]

theorem byName_localIs (loc : String) : ByName (·.localIs loc) :=
  ⟨fun _ _ _ _ _ => rfl, fun _ => rfl, fun _ => rfl⟩
theorem byName_isElem (space loc : String) : ByName (·.isElem space loc) :=
  ⟨fun _ _ _ _ _ => rfl, fun _ => rfl, fun _ => rfl⟩

end GoWebdav.Spec.XmlNoise
