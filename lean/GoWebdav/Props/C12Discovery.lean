import GoWebdav.Impl.Discovery
import GoWebdav.Lemmas.MapM
import GoWebdav.Props.C16
/-!
C12, the discovery sentence: "the client's discovery chain (well-known redirect, current-user-principal, home set,
collections) returns exactly the backend's paths" — for EVERY principal, home-set and collection path a backend may
name (any bytes: spaces, `?`, `#`, `%`, non-ASCII …), as long as it is an addressable absolute path (begins with one
`/`, the domain of hrefs in C16), and for every number of collections.
-/
namespace GoWebdav.Props.C12
open GoWebdav GoWebdav.Impl.Codec GoWebdav.Impl.Discovery

/-- an absolute path whose first segment is not empty (what a backend may name; `//x` would be read as a host) -/
def Addressable (p : Bytes) : Prop := ∃ q, p = 47 :: q ∧ q.head? ≠ some 47

theorem readHref_encode (p : Bytes) (h : Addressable p) : readHref (hrefEncode p) = some p := by
  obtain ⟨q, rfl, hq⟩ := h
  simp [readHref, Props.C16.C16_href_roundtrip q hq]

/-- the last link of the chain, the objects of a collection (`QueryCalendar`, `MultiGetCalendar`, a Depth 1
    listing — one `response/href` per object, read with `resp.Path()`): every list of addressable object paths comes
    back as it is, in order -/
theorem C12_object_paths_round_trip (objects : List Bytes) (h : ∀ o ∈ objects, Addressable o) :
    (objects.map hrefEncode).mapM readHref = some objects :=
  Lemmas.mapM_map_eq_pure hrefEncode readHref objects fun o ho => readHref_encode o (h o ho)

/-- the whole chain, every backend: the client ends up with exactly the paths the backend named (the collections are
    read like the objects of a collection) -/
theorem C12_discovery_chain (b : Backend) (hp : Addressable b.principal) (hh : Addressable b.homeSet)
    (hc : ∀ c ∈ b.collections, Addressable c) :
    discover (serve b) = some (b.principal, b.principal, b.homeSet, b.collections) := by
  simp [discover, serve, readHref_encode _ hp, readHref_encode _ hh, C12_object_paths_round_trip _ hc]

/-- why the redirect must be escaped (the defect repaired by 1b8f3d2): handed over raw, the principal `/w?x/` is
    announced as a reference whose path is `/w` -/
theorem C12_raw_location_loses_the_principal :
    (discover (serveRawLocation { principal := [47, 119, 63, 120, 47], homeSet := [47, 119, 63, 120, 47, 104, 47], collections := [] })).map (·.1)
      = some [47, 119] := by decide

-- non-vacuity: a backend with awkward names satisfies the hypotheses
-- ("/s d/v/w?x0/")
example : Addressable [47, 115, 32, 100, 47, 118, 47, 119, 63, 120, 48, 47] :=
  ⟨[115, 32, 100, 47, 118, 47, 119, 63, 120, 48, 47], rfl, by decide⟩

end GoWebdav.Props.C12
