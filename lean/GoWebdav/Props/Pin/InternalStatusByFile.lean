import GoWebdav.Generated.Facts
import GoWebdav.Expected.Pinned
/-! Tie A: the regenerated table `internalStatusByFile` equals the pinned one (kernel-checked, `rfl` on literals). -/
namespace GoWebdav.Props.Pin

theorem pin_internalStatusByFile : Generated.internalStatusByFile = Expected.Pinned.internalStatusByFile := rfl

end GoWebdav.Props.Pin
