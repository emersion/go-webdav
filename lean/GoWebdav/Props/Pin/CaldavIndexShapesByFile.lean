import GoWebdav.Generated.Facts
import GoWebdav.Expected.Pinned
/-! Tie A: the regenerated table `caldavIndexShapesByFile` equals the pinned one (kernel-checked, `rfl` on literals). -/
namespace GoWebdav.Props.Pin

theorem pin_caldavIndexShapesByFile : Generated.caldavIndexShapesByFile = Expected.Pinned.caldavIndexShapesByFile := rfl

end GoWebdav.Props.Pin
