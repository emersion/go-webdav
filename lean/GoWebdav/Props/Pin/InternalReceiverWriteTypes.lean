import GoWebdav.Generated.Facts
import GoWebdav.Expected.Pinned
/-! Tie A: the regenerated table `internalReceiverWriteTypes` equals the pinned one (kernel-checked, `rfl` on literals). -/
namespace GoWebdav.Props.Pin

theorem pin_internalReceiverWriteTypes : Generated.internalReceiverWriteTypes = Expected.Pinned.internalReceiverWriteTypes := rfl

end GoWebdav.Props.Pin
