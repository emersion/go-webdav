import GoWebdav.Generated.Facts
import GoWebdav.Expected.Pinned
/-! Tie A: the regenerated table `caldavGlobals` equals the pinned one (kernel-checked, `rfl` on literals). -/
namespace GoWebdav.Props.Pin

theorem pin_caldavGlobals : Generated.caldavGlobals = Expected.Pinned.caldavGlobals := rfl

end GoWebdav.Props.Pin
