import GoWebdav.Generated.Facts
import GoWebdav.Expected.Pinned
/-! Tie A: the regenerated table `carddavReceiverWriteTypes` equals the pinned one (kernel-checked, `rfl` on literals). -/
namespace GoWebdav.Props.Pin

theorem pin_carddavReceiverWriteTypes : Generated.carddavReceiverWriteTypes = Expected.Pinned.carddavReceiverWriteTypes := rfl

end GoWebdav.Props.Pin
