import GoWebdav.Generated.Facts
import GoWebdav.Expected.Pinned
/-! Tie A: the regenerated table `caldavReceiverWriteTypes` equals the pinned one (kernel-checked, `rfl` on literals). -/
namespace GoWebdav.Props.Pin

theorem pin_caldavReceiverWriteTypes : Generated.caldavReceiverWriteTypes = Expected.Pinned.caldavReceiverWriteTypes := rfl

end GoWebdav.Props.Pin
