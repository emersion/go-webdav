import GoWebdav.Generated.Facts
import GoWebdav.Expected.Pinned
/-! Tie A: the regenerated table `webdavStatusByFile` equals the pinned one (kernel-checked, `rfl` on literals). -/
namespace GoWebdav.Props.Pin

theorem pin_webdavStatusByFile : Generated.webdavStatusByFile = Expected.Pinned.webdavStatusByFile := rfl

end GoWebdav.Props.Pin
