import GoWebdav.Generated.Schema
import GoWebdav.Expected.Pinned
/-! Tie A: the regenerated table `caldavSchema` equals the pinned one (kernel-checked, `rfl` on literals). -/
namespace GoWebdav.Props.Pin

theorem pin_caldavSchema : Generated.caldavSchema = Expected.Pinned.caldavSchema := rfl

end GoWebdav.Props.Pin
