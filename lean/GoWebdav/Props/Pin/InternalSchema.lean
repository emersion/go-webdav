import GoWebdav.Generated.Schema
import GoWebdav.Expected.Pinned
/-! Tie A: the regenerated table `internalSchema` equals the pinned one (kernel-checked, `rfl` on literals). -/
namespace GoWebdav.Props.Pin

theorem pin_internalSchema : Generated.internalSchema = Expected.Pinned.internalSchema := rfl

end GoWebdav.Props.Pin
