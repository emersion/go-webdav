import GoWebdav.Generated.Facts
import GoWebdav.Expected.Pinned
/-! Tie A: the regenerated table `internalIndexShapesByFile` equals the pinned one (kernel-checked, `rfl` on literals). -/
namespace GoWebdav.Props.Pin

theorem pin_internalIndexShapesByFile : Generated.internalIndexShapesByFile = Expected.Pinned.internalIndexShapesByFile := rfl

end GoWebdav.Props.Pin
