import GoWebdav.Generated.Facts
import GoWebdav.Expected.Pinned
/-! Tie A: the regenerated table `carddavIndexShapesByFile` equals the pinned one (kernel-checked, `rfl` on literals). -/
namespace GoWebdav.Props.Pin

theorem pin_carddavIndexShapesByFile : Generated.carddavIndexShapesByFile = Expected.Pinned.carddavIndexShapesByFile := rfl

end GoWebdav.Props.Pin
