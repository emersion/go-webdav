import GoWebdav.Generated.Facts
import GoWebdav.Expected.Pinned
/-! Tie A: the regenerated table `webdavPanicsByFile` equals the pinned one (kernel-checked, `rfl` on literals). -/
namespace GoWebdav.Props.Pin

theorem pin_webdavPanicsByFile : Generated.webdavPanicsByFile = Expected.Pinned.webdavPanicsByFile := rfl

end GoWebdav.Props.Pin
