import GoWebdav.Generated.Schema
import GoWebdav.Expected.Pinned
/-! Tie A: the regenerated table `carddavSchema` equals the pinned one (kernel-checked, `rfl` on literals). -/
namespace GoWebdav.Props.Pin

theorem pin_carddavSchema : Generated.carddavSchema = Expected.Pinned.carddavSchema := rfl

end GoWebdav.Props.Pin
