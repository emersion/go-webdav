import GoWebdav.Generated.Facts
import GoWebdav.Expected.Pinned
/-! Tie A: the regenerated table `carddavGlobals` equals the pinned one (kernel-checked, `rfl` on literals). -/
namespace GoWebdav.Props.Pin

theorem pin_carddavGlobals : Generated.carddavGlobals = Expected.Pinned.carddavGlobals := rfl

end GoWebdav.Props.Pin
