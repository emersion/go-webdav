import GoWebdav.Expected.Pinned
import GoWebdav.Expected.IndexSiteGuards
/-! Every run-time-checked access of the pinned inventory has a recorded guard, and every recorded guard is for a
    pinned access (kernel-checked equality of the two site lists, per package).  Together with
    `pin_*IndexSites` (the CURRENT source has exactly the pinned accesses): every `x[i]`, `x[a:b]` and `x.(T)` of the
    current source is one whose guard was read. -/
namespace GoWebdav.Props.Pin
open GoWebdav.Expected

theorem index_sites_all_guarded :
    Guards.sites Guards.internal = Pinned.internalIndexSites ∧ Guards.sites Guards.webdav = Pinned.webdavIndexSites ∧
    Guards.sites Guards.caldav = Pinned.caldavIndexSites ∧ Guards.sites Guards.carddav = Pinned.carddavIndexSites :=
  ⟨rfl, rfl, rfl, rfl⟩

end GoWebdav.Props.Pin
