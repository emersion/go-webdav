import GoWebdav.Generated.Facts
import GoWebdav.Expected.Pinned
/-! Tie A: the regenerated table `carddavPanicsByFile` equals the pinned one (kernel-checked, `rfl` on literals). -/
namespace GoWebdav.Props.Pin

theorem pin_carddavPanicsByFile : Generated.carddavPanicsByFile = Expected.Pinned.carddavPanicsByFile := rfl

end GoWebdav.Props.Pin
