import GoWebdav.Generated.Facts
import GoWebdav.Expected.Pinned
/-! Tie A: the regenerated table `caldavStatusByFile` equals the pinned one (kernel-checked, `rfl` on literals). -/
namespace GoWebdav.Props.Pin

theorem pin_caldavStatusByFile : Generated.caldavStatusByFile = Expected.Pinned.caldavStatusByFile := rfl

end GoWebdav.Props.Pin
