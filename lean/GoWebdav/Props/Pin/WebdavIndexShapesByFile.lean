import GoWebdav.Generated.Facts
import GoWebdav.Expected.Pinned
/-! Tie A: the regenerated table `webdavIndexShapesByFile` equals the pinned one (kernel-checked, `rfl` on literals). -/
namespace GoWebdav.Props.Pin

theorem pin_webdavIndexShapesByFile : Generated.webdavIndexShapesByFile = Expected.Pinned.webdavIndexShapesByFile := rfl

end GoWebdav.Props.Pin
