import GoWebdav.Generated.Schema
import GoWebdav.Expected.Pinned
/-! Tie A: the regenerated table `webdavSchema` equals the pinned one (kernel-checked, `rfl` on literals). -/
namespace GoWebdav.Props.Pin

theorem pin_webdavSchema : Generated.webdavSchema = Expected.Pinned.webdavSchema := rfl

end GoWebdav.Props.Pin
