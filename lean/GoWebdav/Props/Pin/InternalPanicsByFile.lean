import GoWebdav.Generated.Facts
import GoWebdav.Expected.Pinned
/-! Tie A: the regenerated table `internalPanicsByFile` equals the pinned one (kernel-checked, `rfl` on literals). -/
namespace GoWebdav.Props.Pin

theorem pin_internalPanicsByFile : Generated.internalPanicsByFile = Expected.Pinned.internalPanicsByFile := rfl

end GoWebdav.Props.Pin
