import GoWebdav.Generated.Facts
import GoWebdav.Expected.Pinned
/-! Tie A: the regenerated table `internalGlobals` equals the pinned one (kernel-checked, `rfl` on literals). -/
namespace GoWebdav.Props.Pin

theorem pin_internalGlobals : Generated.internalGlobals = Expected.Pinned.internalGlobals := rfl

end GoWebdav.Props.Pin
