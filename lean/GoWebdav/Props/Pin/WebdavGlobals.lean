import GoWebdav.Generated.Facts
import GoWebdav.Expected.Pinned
/-! Tie A: the regenerated table `webdavGlobals` equals the pinned one (kernel-checked, `rfl` on literals). -/
namespace GoWebdav.Props.Pin

theorem pin_webdavGlobals : Generated.webdavGlobals = Expected.Pinned.webdavGlobals := rfl

end GoWebdav.Props.Pin
