import GoWebdav.Generated.Facts
import GoWebdav.Expected.Pinned
/-! Tie A: the regenerated table `caldavPanicsByFile` equals the pinned one (kernel-checked, `rfl` on literals). -/
namespace GoWebdav.Props.Pin

theorem pin_caldavPanicsByFile : Generated.caldavPanicsByFile = Expected.Pinned.caldavPanicsByFile := rfl

end GoWebdav.Props.Pin
