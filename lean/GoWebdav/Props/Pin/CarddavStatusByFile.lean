import GoWebdav.Generated.Facts
import GoWebdav.Expected.Pinned
/-! Tie A: the regenerated table `carddavStatusByFile` equals the pinned one (kernel-checked, `rfl` on literals). -/
namespace GoWebdav.Props.Pin

theorem pin_carddavStatusByFile : Generated.carddavStatusByFile = Expected.Pinned.carddavStatusByFile := rfl

end GoWebdav.Props.Pin
