import GoWebdav.Generated.Facts
import GoWebdav.Expected.Pinned
/-! Tie A: the regenerated table `webdavReceiverWriteTypes` equals the pinned one (kernel-checked, `rfl` on literals). -/
namespace GoWebdav.Props.Pin

theorem pin_webdavReceiverWriteTypes : Generated.webdavReceiverWriteTypes = Expected.Pinned.webdavReceiverWriteTypes := rfl

end GoWebdav.Props.Pin
