import GoWebdav.Impl.DavWire
import GoWebdav.Lemmas.MapM
import GoWebdav.Lemmas.ObjectWire
import GoWebdav.Lemmas.Path
/-!
# C05 — WebDAV client and server agree on names, metadata and content

Model `Impl.DavWire`.  Proved:

* names — an absolute name is the request path as it is; any other name is cleaned on top of the endpoint's segments
  (`path.Join`), so that one made of ordinary segments resolves to the endpoint's segments followed by the name's, for
  every endpoint and every name;
* options — for all four combinations, the Copy and Move options the file system receives are exactly the ones the
  caller asked for (regenerated Overwrite / Depth tables on both sides);
* metadata — for every FileInfo (arbitrary strings, any size, any instant) and every round-tripping codec family the
  client rebuilds the backend's FileInfo; listings keep every entry, once, in the backend's order.

Content bytes (Open, Create) are streamed by net/http and io: tied by family `davwire`, not modelled.
-/
namespace GoWebdav.Props.C05
open GoWebdav GoWebdav.Std.Path GoWebdav.Impl.ObjectWire GoWebdav.Impl.DavWire GoWebdav.Lemmas.Path GoWebdav.Lemmas.ObjectWire

/-- an absolute name addresses exactly that path, whatever the endpoint -/
theorem C05_absolute_name (e n : Bytes) (h : n.head? = some slash) : resolve e n = n := by
  unfold resolve; simp [h]

theorem resolve_relative (E : List Seg) (hE : ∀ s ∈ E, Normal s) (hEne : E ≠ []) (n : Bytes) (hn : n.head? ≠ some slash) :
    resolve (renderSegs E) n =
      if cleanSegs true E.reverse (splitSlash n) = [] then [slash] else renderSegs (cleanSegs true E.reverse (splitSlash n)) := by
  have hE' : rootedSegs (renderSegs E) = E := by simpa using rootedSegs_render E hE hEne false
  rw [resolve, if_neg hn, clean_of_isAbs _ (isAbs_render E hEne _), rootedSegs_append_slash, hE']

/-- a relative name is resolved against the endpoint path: endpoint segments, then the name's segments -/
theorem C05_relative_name (E N : List Seg) (hE : ∀ s ∈ E, Normal s) (hN : ∀ s ∈ N, Normal s) (hEne : E ≠ []) (hNne : N ≠ []) :
    resolve (renderSegs E) (joinSegs N) = renderSegs (E ++ N) := by
  obtain ⟨s, rest, rfl⟩ := List.exists_cons_of_ne_nil hNne
  have hs := hN s (by simp)
  rw [resolve_relative E hE hEne _ (head?_joinSegs_ne_slash s rest hs.1 hs.2.2.2),
    splitSlash_joinSegs _ (fun x hx => (hN x hx).2.2.2) hNne, cleanSegs_of_normal _ _ _ hN]
  simp

/-- Copy: the file system receives exactly the requested recursion and overwrite options -/
theorem C05_copy_options (o : CopyOptions) : copyDecode (copyHeaders o).1 (copyHeaders o).2 = some o := by
  obtain ⟨nr, no⟩ := o
  cases nr <;> cases no <;> decide

/-- Move: the file system receives exactly the requested overwrite option -/
theorem C05_move_options (noOverwrite : Bool) : moveDecode (moveHeaders noOverwrite) = some noOverwrite := by
  cases noOverwrite <;> decide

/-- Stat / ReadDir entry: the client rebuilds the backend's FileInfo — path, kind, size, modification time, content
    type and entity tag.  The hypotheses are the round trips of THIS value's path, tag, time and size only -/
theorem C05_fileinfo_at (k : Codecs Unit) (fi : FileInfo)
    (hh : k.unescHref (k.escHref fi.path) = some fi.path)
    (ht : fi.isDir = false → k.unquoteTag (k.quoteTag fi.etag) = some fi.etag)
    (hm : ∀ t, fi.modTime = some t → k.parseDate (k.fmtDate t) = some t)
    (hi : fi.isDir = false → k.parseInt (k.fmtInt fi.size) = some fi.size) :
    fileInfoOf k (fileResp k fi) = .ok fi.seen := by
  obtain ⟨path, isDir, size, mod, mime, etag⟩ := fi
  simp only at hh ht hm hi
  cases isDir
  · cases mod <;> by_cases hm' : mime = "" <;> by_cases he : etag = "" <;>
      simp [fileInfoOf, fileResp, FileInfo.seen, optText, hh, ht, hm, hi, hm', he]
  · cases mod <;> simp [fileInfoOf, fileResp, FileInfo.seen, hh, hm]

theorem C05_fileinfo (k : Codecs Unit) (hk : k.OK) (fi : FileInfo) : fileInfoOf k (fileResp k fi) = .ok fi.seen :=
  C05_fileinfo_at k fi (hk.href _) (fun _ => hk.tag _) (fun _ _ => hk.date _) (fun _ => hk.int _)

/-- ReadDir: every entry of the backend's listing arrives, once, in the backend's order -/
theorem C05_listing_at (k : Codecs Unit) (listing : List FileInfo)
    (hall : ∀ fi ∈ listing, k.unescHref (k.escHref fi.path) = some fi.path ∧
      (fi.isDir = false → k.unquoteTag (k.quoteTag fi.etag) = some fi.etag) ∧
      (∀ t, fi.modTime = some t → k.parseDate (k.fmtDate t) = some t) ∧
      (fi.isDir = false → k.parseInt (k.fmtInt fi.size) = some fi.size)) :
    readDir k listing = .ok (listing.map FileInfo.seen) := by
  rw [readDir, List.mapM_map]
  exact Lemmas.mapM_eq_pure_map _ _ _ fun fi h =>
    let ⟨h1, h2, h3, h4⟩ := hall fi h
    C05_fileinfo_at k fi h1 h2 h3 h4

theorem C05_listing (k : Codecs Unit) (hk : k.OK) (listing : List FileInfo) :
    readDir k listing = .ok (listing.map FileInfo.seen) :=
  C05_listing_at k listing (fun _ _ => ⟨hk.href _, fun _ => hk.tag _, fun _ _ => hk.date _, fun _ => hk.int _⟩)

/-- …under the path by which it can be addressed again: a reported absolute path resolves to itself -/
theorem C05_reported_paths_addressable (k : Codecs Unit) (hk : k.OK) (listing : List FileInfo) (e : Bytes) :
    ∀ fi ∈ listing, ∀ (p : Bytes), p.head? = some slash → resolve e p = p :=
  fun _ _ p hp => C05_absolute_name e p hp

example : resolve [47, 100, 97, 118] [120] = [47, 100, 97, 118, 47, 120] := by decide          -- "/dav" + "x"
example : resolve [47, 100, 97, 118, 47] [120, 47] = [47, 100, 97, 118, 47, 120] := by decide  -- "/dav/" + "x/"
example : resolve [47] [] = [47] := by decide                                                   -- "/" + ""
example : resolve [47, 100] [46, 46, 47, 120] = [47, 120] := by decide                          -- "/d" + "../x"
example : Normal [120] ∧ Normal [100, 97, 118] := by decide

end GoWebdav.Props.C05
