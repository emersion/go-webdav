import GoWebdav.Lemmas.Refine
/-!
# C01 — WebDAV file server behaves like the RFC 4918 resource-tree model

`Impl.Webdav.step` mirrors the file server (after the `fix:` commits recorded in known_findings.json);
`Spec.Rfc4918.allows` is the abstract resource tree with its refusal table.  The refinement is proved for every
well-formed tree and every request — every path string, every header value — outside the one open finding
(`FaultRegion`: a PUT over an existing file whose body breaks off; see C02).

The sentence lemmas at the end restate the property's sentences about the specification's bulk operations pointwise,
so the specification cannot drift into a restatement of the implementation.
-/
namespace GoWebdav.Props.C01
open GoWebdav GoWebdav.Std.Path GoWebdav.Std.Posix GoWebdav.Impl.Path GoWebdav.Impl.Webdav GoWebdav.Spec.Rfc4918
open GoWebdav.Lemmas.Webdav GoWebdav.Lemmas.Refine

/-- every response and the tree afterwards are allowed by the abstract RFC 4918 model -/
theorem C01_refines_partial (t : FS) (hwf : WF t) (r : Request) (hnr : ¬ FaultRegion t r) :
    allows t r (step t r) := by
  obtain ⟨_, h, he⟩ := step_handler r
  rw [he]
  cases h with
  | options hm => exact allows_options t r hm
  | headGet hm => exact allows_headGet t r hm
  | put hm => exact allows_put t hwf r hm hnr
  | delete hm => exact allows_delete t r hm
  | propfind hm => exact allows_propfind t r hm
  | proppatch hm => exact allows_proppatch t r hm
  | mkcol hm => exact allows_mkcol t r hm
  | copyMove hm => exact allows_copyMove t hwf r hm
  | other hm => exact allows_other t r hm

/-- requests keep the tree well formed (every resource other than the root sits in a collection) -/
theorem C01_wf_preserved (t : FS) (hwf : WF t) (r : Request) : WF (step t r).1 := wf_outcome hwf (step_outcome t r)

/-- every step of the run of a request sequence is allowed (outside the open finding) -/
def RunOK : FS → List Request → Prop
  | _, [] => True
  | t, r :: rs => (¬ FaultRegion t r → allows t r (step t r)) ∧ RunOK (step t r).1 rs

theorem C01_history (t₀ : FS) (hwf : WF t₀) (rs : List Request) : RunOK t₀ rs := by
  induction rs generalizing t₀ with
  | nil => trivial
  | cons r rs ih => exact ⟨fun hnr => C01_refines_partial t₀ hwf r hnr, ih _ (C01_wf_preserved t₀ hwf r)⟩

theorem put_exactly (t : FS) (p q : FPath) (body : Bytes) :
    lookup (set t p (.file body)) q = if p = q then some (.file body) else lookup t q := lookup_set t p q _

theorem delete_exactly_subtree (t : FS) (p q : FPath) :
    lookup (removeAll t p) q = if p.isPrefixOf q then none else lookup t q := lookup_removeAll t p q

theorem mkcol_one_empty_collection (t : FS) (hwf : WF t) (p : FPath) (habs : lookup t p = none) (q : FPath) :
    lookup (set t p .dir) q = if p = q then some .dir else if p.isPrefixOf q then none else lookup t q := by
  rw [lookup_set]
  by_cases hpq : p = q
  · simp [hpq]
  · simp only [hpq, if_false]
    by_cases hpre : p.isPrefixOf q = true
    · simp [hpre, wf_absent_below t hwf p habs q hpre]
    · simp [hpre]

theorem copy_deep (t : FS) (hwf : WF t) (p d q : FPath) (hfree : lookup t d = none) :
    lookup (graft t p d) q = if d.isPrefixOf q then lookup t (p ++ q.drop d.length) else lookup t q := by
  rw [lookup_graft]
  by_cases hdq : d.isPrefixOf q = true
  · rw [if_pos hdq, if_pos hdq, wf_absent_below t hwf d hfree q hdq, Option.or_none]
  · rw [if_neg hdq, if_neg hdq]

theorem copy_source_survives (t : FS) (hwf : WF t) (p d q : FPath) (hfree : lookup t d = none)
    (hq : d.isPrefixOf q = false) : lookup (graft t p d) q = lookup t q := by
  rw [copy_deep t hwf p d q hfree, hq]; simp

theorem copy_depth0_bare (t : FS) (hwf : WF t) (d q : FPath) (hfree : lookup t d = none) :
    lookup (set t d .dir) q = if d = q then some .dir else if d.isPrefixOf q then none else lookup t q :=
  mkcol_one_empty_collection t hwf d hfree q

theorem move_source_vanishes (t : FS) (hwf : WF t) (p d q : FPath) (hfree : lookup t d = none)
    (hov : overlap p d = false) :
    lookup (removeAll (graft t p d) p) q =
      if p.isPrefixOf q then none else if d.isPrefixOf q then lookup t (p ++ q.drop d.length) else lookup t q := by
  rw [lookup_removeAll, copy_deep t hwf p d q hfree]

theorem overwrite_honoured (t : FS) (r : Request) (p d : FPath) (hm : r.method = "COPY" ∨ r.method = "MOVE")
    (hp : target r.path = some p) (hd : destTarget r = some d) (hex : kind t d ≠ .absent) (how : r.overwrite = "F") :
    412 ∈ refusals t r := by
  rw [refusals_copyMove hm hp, hd]
  simp [hex, how]

theorem readonly_methods_leave_tree (t : FS) (r : Request)
    (hm : r.method = "GET" ∨ r.method = "HEAD" ∨ r.method = "OPTIONS" ∨ r.method = "PROPFIND") : (step t r).1 = t := by
  rw [step_eq]
  rcases hm with h | h | h | h <;> simp +decide [h, options, headGet, propfind]

-- non-vacuity: a three-level tree and a deep COPY
def exTree : FS := [([[97], [98], [99]], .file [120]), ([[97], [98]], .dir), ([[97]], .dir), ([], .dir)]

theorem exTree_wf : WF exTree := wf_of_entries _ (by decide)

example : (step exTree { method := "COPY", path := [47, 97], dest := .path [47, 122] }).2.status = 201 ∧
    lookup (step exTree { method := "COPY", path := [47, 97], dest := .path [47, 122] }).1 [[122], [98], [99]] = some (.file [120]) := by
  decide

end GoWebdav.Props.C01
