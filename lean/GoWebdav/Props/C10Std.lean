import GoWebdav.Props.C10
import GoWebdav.Props.C05
import GoWebdav.Lemmas.Time
import GoWebdav.Std.Decimal
/-!
# C10 / C05 — the codec hypotheses discharged for the modelled standard-library codecs

The `_at` theorems of C10 and C05 take the round trips of a value's path, entity tag, modification time and sizes as
hypotheses.  Here the date and integer ones are discharged for the `Std` models of `time.Format(http.TimeFormat)` /
`http.ParseTime` and `strconv.FormatInt` / `strconv.ParseInt` (the models family `codec` ties to the Go functions): any
instant in years 0000-03-01 … 9999 and any 64-bit size.  An instant outside that range is NOT claimed:
`http.TimeFormat` has four year digits.  The href and entity-tag hypotheses are the byte-level theorems
`C16_href_roundtrip` (paths not starting with "//") and `C16_etag_roundtrip`; the object data hypothesis is go-ical's /
go-vcard's round trip (trusted, family `objwire`).
-/
namespace GoWebdav.Props.C10Std
open GoWebdav GoWebdav.Std GoWebdav.Std.Decimal GoWebdav.Impl.ObjectWire GoWebdav.Impl.DavWire

def withStd {D : Type} (k : Codecs D) : Codecs D :=
  { k with fmtDate := fun t => String.ofList (Time.fmtHttp t), parseDate := fun s => Time.parseHttp s.toList,
           fmtInt := fun n => String.ofList (intText n), parseInt := fun s => atoi s.toList }

theorem std_date {D : Type} (k : Codecs D) (t : Int) (h : Time.InRange t) :
    (withStd k).parseDate ((withStd k).fmtDate t) = some t := by
  simp [withStd, Lemmas.Time.parseHttp_fmtHttp t h]

theorem std_int {D : Type} (k : Codecs D) (n : Int) (h : InInt64 n) :
    (withStd k).parseInt ((withStd k).fmtInt n) = some n := by
  simp [withStd, atoi_intText n h]

/-- C10 for an object whose modification time is a four-digit-year instant: no assumption on the date codec is left -/
theorem C10_object_std {D : Type} (k : Codecs D) (dataName : String)
    (hd : dataName ≠ "getcontentlength" ∧ dataName ≠ "getlastmodified" ∧ dataName ≠ "getetag") (o : Obj D)
    (hrange : ∀ t, o.modTime = some t → Time.InRange t)
    (hh : k.unescHref (k.escHref o.path) = some o.path)
    (ht : k.unquoteTag (k.quoteTag o.etag) = some o.etag)
    (hdat : k.decData (k.encData o.data) = some o.data) :
    objOf (withStd k) dataName (objResp (withStd k) dataName o) = .ok o.seenInReport :=
  Props.C10.C10_object_at (withStd k) dataName hd o hh ht (fun t e => std_date k t (hrange t e)) hdat

theorem C10_get_std {D : Type} (k : Codecs D) (o : Obj D)
    (hrange : ∀ t, o.modTime = some t → Time.InRange t) (hlen : InInt64 o.contentLength)
    (ht : k.unquoteTag (k.quoteTag o.etag) = some o.etag) :
    populate (withStd k) o.path o.data (getHeaders (withStd k) o) = .ok o.seen :=
  Props.C10.C10_get_at (withStd k) o ht (fun t e => std_date k t (hrange t e)) (fun _ => std_int k _ hlen)

theorem C10_calendar_std {D : Type} (k : Codecs D) (c : Calendar) (hsize : InInt64 c.maxResourceSize)
    (hh : k.unescHref (k.escHref c.path) = some c.path) :
    calendarOf (withStd k) (calendarResp (withStd k) c) = .ok (some c.seen) :=
  Props.C10.C10_calendar_at (withStd k) c hh (fun _ => std_int k _ hsize)

/-- C05: a file's size, modification time survive for every 64-bit size and four-digit-year instant -/
theorem C05_fileinfo_std (k : Codecs Unit) (fi : FileInfo)
    (hrange : ∀ t, fi.modTime = some t → Time.InRange t) (hsize : InInt64 fi.size)
    (hh : k.unescHref (k.escHref fi.path) = some fi.path)
    (ht : k.unquoteTag (k.quoteTag fi.etag) = some fi.etag) :
    fileInfoOf (withStd k) (fileResp (withStd k) fi) = .ok fi.seen :=
  Props.C05.C05_fileinfo_at (withStd k) fi hh (fun _ => ht) (fun t e => std_date k t (hrange t e)) (fun _ => std_int k _ hsize)

/-- outside the range the date hypothesis is FALSE for the modelled codec: year 10000 does not survive -/
example : Time.parseHttp (Time.fmtHttp 253402300800) ≠ some 253402300800 := by decide

example : Time.InRange 1710032400 ∧ InInt64 123456789012 := by unfold Time.InRange InInt64; decide

end GoWebdav.Props.C10Std
