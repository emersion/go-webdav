import GoWebdav.Lemmas.Carddav
/-!
# C07 — CardDAV filter evaluation, limit and projection follow RFC 6352 §10.5

`Impl.Carddav` mirrors carddav/match.go; `Spec.Carddav` restates the property with `any`/`all`/`filter`/`take`.
Reading adopted (DESIGN §5 C07): "the property value" is the first instance of the property, as `Card.Get` returns it.
Non-modification of the arguments is an aliasing statement that a pure model cannot express; it is checked by the
harness (deep copy before / deep compare after every call) as validation of the model's purity assumption.
-/
namespace GoWebdav.Props.C07
open GoWebdav GoWebdav.Impl.Carddav GoWebdav.Spec.Carddav GoWebdav.Lemmas.Carddav

/-- Match is the RFC truth table for every query whose enumerations are valid and every card -/
theorem C07_match_eq_spec (q : Query) (card : Card) (hv : ValidQuery q) :
    match_ q card = .ok (holds q card) := match_valid q card hv

/-- a nil query matches everything -/
theorem C07_nil_query_matches (card : Card) : matchOpt none card = .ok true := rfl

/-- an unknown query-level test is reported as an error, for every card -/
theorem C07_unknown_query_test_is_error (q : Query) (card : Card) (h : validTest q.filterTest = false) :
    ∃ e, match_ q card = .error e := ⟨_, match_unknown_test q card h⟩

/-- an unknown property-level test is an error whenever it is consulted (property present, text-matches to combine) -/
theorem C07_unknown_prop_test_is_error (pf : PropFilter) (card : Card) (v : String) (hg : card.get pf.name = some v)
    (hind : pf.isNotDefined = false) (hne : pf.textMatches.isEmpty = false) (h : validTest pf.test = false) :
    matchPropFilter pf card = .error .unknownPropTest := by
  unfold matchPropFilter
  simp only [hg, hind, hne, Bool.false_eq_true, if_false]
  exact scan_invalid h _ _ _

/-- an unknown match type is an error whenever that text-match is evaluated -/
theorem C07_unknown_match_type_is_error (t : TextMatch) (v : String) (h : validMatchType t.matchType = false) :
    matchTextMatch t v = .error .unknownMatchType := by
  simp only [validMatchType, decide_eq_false_iff_not, not_or] at h
  unfold matchTextMatch
  simp [h.1, h.2.1, h.2.2.1, h.2.2.2.1, h.2.2.2.2]

/-- never guessed: whenever `matchTextMatch` answers, the answer is the truth table's -/
theorem C07_text_verdict_never_guessed (t : TextMatch) (v : String) (b : Bool) (h : matchTextMatch t v = .ok b) :
    validMatchType t.matchType = true ∧ b = textHolds t v := by
  by_cases hv : validMatchType t.matchType = true
  · rw [matchTextMatch_valid t v hv] at h; exact ⟨hv, by cases h; rfl⟩
  · simp only [Bool.not_eq_true] at hv
    rw [C07_unknown_match_type_is_error t v hv] at h; cases h

/-- Filter = matching objects, in input order, cut to the first Limit matches when Limit is positive,
    each reduced to VERSION plus the requested properties -/
theorem C07_filter_eq_select (q : Query) (aos : List AO) (hv : ValidQuery q) (hnp : NoPanic q aos) :
    ∃ out, filter (some q) aos = .ok out ∧ Forall2 (Projects q) (selected q aos) out := by
  rw [filter_eq_mapM q hv]
  refine Forall2.mapM _ fun ao hao => filterProperties_spec q ao ?_
  rcases hnp with h | h | h
  · exact .inl h
  · exact .inr (.inl h)
  · exact .inr (.inr (h ao (mem_selected hao)))

/-- a nil query returns all objects -/
theorem C07_filter_nil (aos : List AO) : filter none aos = .ok aos := rfl

/-- whole card for all-properties or an empty selection -/
theorem C07_whole_card (q : Query) (ao : AO) (h : q.allProp = true ∨ q.props.isEmpty = true) :
    filterProperties q ao = .ok ao := by
  unfold filterProperties; rw [if_pos h]

def exQuery : Query :=
  { allProp := false, props := ["EMAIL"], filterTest := "allof", limit := 1,
    propFilters := [⟨"EMAIL", "anyof", false, [⟨"x@", false, "starts-with"⟩, ⟨"nope", true, "equals"⟩]⟩, ⟨"TEL", "", true, []⟩] }
def exCard : Card := [("VERSION", ["4.0"]), ("EMAIL", ["x@y.z", "other"]), ("FN", ["X"])]

example : ValidQuery exQuery ∧ NoPanic exQuery [⟨"/a", exCard⟩, ⟨"/b", exCard⟩] := by
  refine ⟨by decide, Or.inr (Or.inr ?_)⟩
  intro ao hao; simp at hao; rcases hao with rfl | rfl <;> rfl
example : holds exQuery exCard = true := by decide
example : filter (some exQuery) [⟨"/a", exCard⟩, ⟨"/b", exCard⟩]
    = .ok [⟨"/a", [("EMAIL", ["x@y.z", "other"]), ("VERSION", ["4.0"])]⟩] := by decide

end GoWebdav.Props.C07
