import GoWebdav.Lemmas.CaldavRead
/-!
# C08 — CalDAV queries cross the wire without loss, in RFC 4791 form

Model: `Impl.CaldavWire` (client encoder and server decoder over namespace-expanded element trees, mirroring
caldav/client.go, caldav/server.go and the struct tags of caldav/elements.go).  Specification: `Spec.CaldavWire`, a
strict reader of the RFC 4791 request grammar (namespaces, names, attributes, child order) that shares the value types,
the two namespace constants and `Std` with the model.

* client → wire: for EVERY query the grammar can express (filter trees of any shape and depth, every flag, arbitrary
  strings, instants from 0000-03-01 to the end of year 9999, any component/property selection), the strict reader reads
  what the client sends to exactly the caller's query;
* wire → backend: for EVERY query the server accepts, the server hands the backend exactly the query the client encoded;
* the same two statements for calendar-multiget, hrefs in order;
* lexical freedom: whatever is added among the children of a comp-filter (text, comments, unknown elements), and however
  they are interleaved, the same filter is decoded; that comments and white space between elements go unseen anywhere in
  a document is in `Props/C08Rfc.lean`.  Prefixes, entities, CDATA and attribute order are below the tree model; they,
  and unknown elements at the other levels, are exercised by the independent writer of family `calwire`.

"Whatever the caller's time zone": instants are Unix seconds in the model; that the Go client converts any
`time.Time` to that instant's UTC text is the `.UTC()` call in `dateWithUTCTime.MarshalText`, tied by `calwire`
(five zones incl. odd offsets, sub-second parts) and proved for the text format itself in C16 (`parseCal ∘ fmtCal`).
-/
namespace GoWebdav.Props.C08
open GoWebdav GoWebdav.Std.Xml GoWebdav.Impl.Caldav GoWebdav.Impl.CaldavWire GoWebdav.Spec.CaldavWire
open GoWebdav.Lemmas.CaldavWire GoWebdav.Lemmas.CaldavRead

/-- client → wire, calendar-query -/
theorem C08_client_query_is_rfc (q : Query) (h : Expressible q = true) : readQuery (encodeQuery q) = some q :=
  readQuery_encodeQuery q h

/-- client → wire → backend, calendar-query -/
theorem C08_query_reaches_backend (q : Query) (h : Accepted q = true) : decodeQuery (encodeQuery q) = .ok q :=
  decodeQuery_encodeQuery q h

/-- on everything the client can send the server is a correct RFC reader -/
theorem C08_server_agrees_with_rfc_reader (q : Query) (h : Expressible q = true) :
    (decodeQuery (encodeQuery q)).toOption = readQuery (encodeQuery q) := by
  have ha : Accepted q = true := by
    unfold Expressible at h; simp only [Bool.and_eq_true] at h; exact h.1.1
  rw [C08_client_query_is_rfc q h, C08_query_reaches_backend q ha]; rfl

/-- client → wire, calendar-multiget: property request first, then the hrefs in order (the request path if none) -/
theorem C08_client_multiget_is_rfc (rp : String) (escape : String → String) (unescape : String → Option String)
    (m : MultiGet) (h : okData m.data = true) (hr : rfcData m.data = true)
    (hesc : ∀ p ∈ (if m.paths.isEmpty then [rp] else m.paths), unescape (escape p) = some p) :
    readMultiGet unescape (encodeMultiGet rp escape m) = some ⟨m.data, if m.paths.isEmpty then [rp] else m.paths⟩ :=
  readMultiGet_encodeMultiGet rp escape unescape m h hr hesc

/-- client → wire → backend, calendar-multiget (`unescape ∘ escape = id` is C16's href round trip) -/
theorem C08_multiget_reaches_backend (rp : String) (escape : String → String) (unescape : String → Option String)
    (m : MultiGet) (h : okData m.data = true)
    (hesc : ∀ p ∈ (if m.paths.isEmpty then [rp] else m.paths), unescape (escape p) = some p) :
    decodeMultiGet unescape (encodeMultiGet rp escape m) = .ok ⟨m.data, if m.paths.isEmpty then [rp] else m.paths⟩ :=
  decodeMultiGet_encodeMultiGet rp escape unescape m h hesc

/-- match text (blanks and metacharacters are characters like any other) and negate-condition -/
theorem C08_textMatch (t : TextMatch) : decTextMatch (encTextMatch t) = .ok t ∧ readTextMatch (encTextMatch t) = some t :=
  ⟨decTextMatch_enc t, readTextMatch_enc t⟩

/-- a time range with one or two bounds, as UTC instants to the second; an unset bound is not sent -/
theorem C08_timeRange (s e : Int) (hs : Std.Time.InRange s) (he : Std.Time.InRange e) (hne : ¬ (s = Z ∧ e = Z)) :
    encTimeRange s e = [el "time-range" (timeAttr "start" s ++ timeAttr "end" e) []] ∧
    readTimeRange (el "time-range" (timeAttr "start" s ++ timeAttr "end" e) []) = some (s, e) ∧
    decRange (el "time-range" (timeAttr "start" s ++ timeAttr "end" e) []) = .ok (s, e) :=
  ⟨by unfold encTimeRange; simp [hne], readTimeRange_enc s e hs he hne, decRange_enc "time-range" s e hs he⟩

/-- stated for the start; the end is alike -/
theorem C08_unset_bound_not_sent (e : Int) : timeAttr "start" Z ++ timeAttr "end" e = timeAttr "end" e := by
  simp [timeAttr]

/-- is-not-defined at every level -/
theorem C08_isNotDefined_param (name : String) :
    decParamFilter (encParamFilter ⟨name, true, none⟩) = .ok ⟨name, true, none⟩ :=
  decParamFilter_enc _ (by simp [okParam])
theorem C08_isNotDefined_prop (name : String) :
    decPropFilter (encPropFilter ⟨name, true, Z, Z, none, []⟩) = .ok ⟨name, true, Z, Z, none, []⟩ :=
  decPropFilter_enc _ (by simp [okProp, inRangeB, Z])
theorem C08_isNotDefined_comp (name : String) :
    decCompFilter (encCompFilter (.mk name true Z Z [] [])) = .ok (.mk name true Z Z [] []) :=
  decCompFilter_enc _ (by simp [okCF, okCFs, inRangeB, Z])

/-- the requested component/property selection with its names, at any nesting depth -/
theorem C08_selection (c : CompReq) (h : okCR c = true) : decComp (encComp c) = .ok c ∧ readComp (encComp c) = some c :=
  ⟨decComp_enc c h, readComp_enc c h⟩

/-- the backend never receives is-not-defined combined with other conditions: such a document is refused (400) -/
theorem C08_ind_exclusive (q : QName) (attrs : List (QName × String)) (cs : List Node) (f : CompFilter)
    (h : decCompFilter (.elem q attrs cs) = .ok f) (hi : f.isNotDefined = true) :
    ∃ name, f = .mk name true Z Z [] [] := by
  simp only [decCompFilter, Lemmas.Xml.bind_eq_ok] at h
  obtain ⟨_, _, tr, _, props, _, comps, _, h⟩ := h
  split at h
  · cases h
  · next hc =>
    cases h
    simp only [CompFilter.isNotDefined] at hi
    obtain ⟨rfl, rfl, rfl⟩ : tr = none ∧ props = [] ∧ comps = [] := by simpa [hi] using hc
    exact ⟨nameAttr attrs, by rw [hi]; rfl⟩

/-- a negate-condition other than yes/no is refused -/
theorem C08_invalid_negate_refused (v : String) (h1 : v ≠ "yes") (h2 : v ≠ "no") (cs : List Node) :
    decTextMatch (el "text-match" [att "negate-condition" v] cs) = .error .badRequest := by
  simp [decTextMatch, el, checkNs, decNegate, attr, att, Generated.caldavNegateParse, h1, h2]

/-- lexical freedom: the decoder sees the children of a comp-filter only through these four `pick`s -/
theorem C08_compFilter_noise (q : QName) (attrs : List (QName × String)) (cs cs' : List Node)
    (h : ∀ loc ∈ ["is-not-defined", "time-range", "prop-filter", "comp-filter"], pick loc cs = pick loc cs') :
    decCompFilter (.elem q attrs cs) = decCompFilter (.elem q attrs cs') := by
  have h1 := h "is-not-defined" (by simp)
  have h2 := h "time-range" (by simp)
  have h3 := h "prop-filter" (by simp)
  have h4 := h "comp-filter" (by simp)
  simp only [decCompFilter, decOptRange, single, hasInd_eq, decCompFilters_eq, h1, h2, h3, h4]

/-- a query using every feature of the grammar -/
def witness : Query :=
  { data := { comp := .mk "VCALENDAR" false ["VERSION"] false
                [.mk "VEVENT" false ["SUMMARY", "UID"] false [], .mk "VTIMEZONE" true [] true []],
              expand := some (1704067200, 1706745600) },
    filter := .mk "VCALENDAR" false Z Z []
      [.mk "VEVENT" false 1710066600 Z
          [⟨"SUMMARY", false, Z, Z, some ⟨" a<b ", true⟩, []⟩,
           ⟨"ATTENDEE", false, Z, Z, none, [⟨"PARTSTAT", false, some ⟨"NEEDS-ACTION", false⟩⟩, ⟨"CN", true, none⟩]⟩,
           ⟨"LOCATION", true, Z, Z, none, []⟩,
           ⟨"DTSTART", false, Z, 1710100000, none, []⟩]
          [.mk "VALARM" true Z Z [] []],
       .mk "VTODO" true Z Z [] []] }

theorem witness_expressible : Expressible witness = true := by decide +kernel

example : readQuery (encodeQuery witness) = some witness := C08_client_query_is_rfc witness witness_expressible

/-- the hypotheses of `C08_compFilter_noise` are met by a noisy, reordered variant of a real filter element -/
example : ∀ loc ∈ ["is-not-defined", "time-range", "prop-filter", "comp-filter"],
    pick loc [el "prop-filter" [att "name" "UID"] [], el "comp-filter" [att "name" "VALARM"] []] =
    pick loc [.text "\n  ", el "prop-filter" [att "name" "UID"] [], .comment " c ",
              .elem ⟨"urn:unknown", "extension"⟩ [] [], el "comp-filter" [att "name" "VALARM"] [], .text "\n"] := by
  intro loc hloc
  simp only [List.mem_cons, List.not_mem_nil, or_false] at hloc
  rcases hloc with rfl | rfl | rfl | rfl <;> rfl

end GoWebdav.Props.C08
