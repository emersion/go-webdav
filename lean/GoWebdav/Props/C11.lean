import GoWebdav.Lemmas.Propfind
/-!
# C11 — PROPFIND answers account for every property and respect Depth

`Impl.Propfind` mirrors `internal.NewPropFindResponse` / `EncodeProp` and the scope code of the CalDAV/CardDAV
backends (after the `fix:` commits); the map iteration order is an arbitrary list order (`avail`), all theorems hold
for every order.  The scope of the WebDAV file server is part of C01 (`entityOK`/`scope` there).
-/
namespace GoWebdav.Props.C11
open GoWebdav.Impl.Propfind GoWebdav.Spec.Propfind GoWebdav.Lemmas.Propfind

/-- keys of a Go map are distinct -/
def KeysDistinct (a : Avail) : Prop := (a.map (·.1)).Nodup

theorem names_nodup (a : Avail) (h : KeysDistinct a) : (names a).Nodup := by
  unfold names
  split
  · rw [List.append_nil]; exact h
  · rename_i hs
    exact nodup_concat h fun hx => hs ((lookupAvail_isSome a _).mpr hx)

theorem answerFor_name (a : Avail) (n : Name) : (answerFor a n).2.1 = n := by
  unfold answerFor
  cases has a n with
  | none => rfl
  | some v => cases v <;> rfl

/-- every distinct property named in the request is accounted for exactly once: with its value under 200 if the
    resource has it, empty under 404 if it does not (empty under the function's own error status if it fails);
    `propname` lists the available names without values, `allprop` returns all of them with values; nothing else
    is present — whatever the iteration order of the property map -/
theorem C11_accounting (a : Avail) (hk : KeysDistinct a) (form : Form) (ps : List PropStat)
    (h : newPropFindResponse a form = some ps) : Accounted a form (flat ps) := by
  unfold newPropFindResponse at h
  rw [produced_withResourceType] at h
  cases form with
  | none => cases h
  | propname => cases h; exact accounts_fold _ (names_nodup a hk) _ fun _ => rfl
  | allprop => cases h; exact accounts_fold _ (names_nodup a hk) _ (answerFor_name a)
  | prop ns =>
    cases h
    obtain ⟨hnd, hmem⟩ := firstOccurrences_spec [] ns
    exact accounts_congr_names (by simp [hmem]) (accounts_fold _ hnd _ (answerFor_name a))

/-- a propfind naming none of the three forms is refused (400), and only that one -/
theorem C11_no_form_400 (a : Avail) (form : Form) : newPropFindResponse a form = none ↔ form = .none := by
  unfold newPropFindResponse
  cases form <;> simp [produced]

/-- no status opens two propstats: properties with the same status share one -/
theorem C11_one_propstat_per_status (a : Avail) (form : Form) (ps : List PropStat)
    (h : newPropFindResponse a form = some ps) : (ps.map (·.code)).Nodup := by
  obtain ⟨items, _, rfl⟩ := Option.map_eq_some_iff.mp h
  exact codes_fold items [] .nil

/-- CalDAV/CardDAV scope: exactly the addressed resource for Depth 0, plus its direct members for Depth 1, plus all
    descendants for Depth infinity — at every level, for every layout; a path that is not an exposed resource of the
    current user (a foreign principal or home set, an unknown collection/object, anything deeper) exposes nothing -/
theorem C11_scope (h : Hierarchy) (reqPath : String) (level : Level) (d : DepthV) :
    Impl.Propfind.scope h reqPath level d = Spec.Propfind.scope h reqPath level d := by
  unfold Spec.Propfind.scope exposed
  -- the exposed paths, level by level: root, own principal, own home set, a known collection, a known object
  fun_cases Impl.Propfind.scope h reqPath level d with
  | case1 => cases d <;> simp [members, descendants, allCollections]
  | case2 he => subst he; cases d <;> simp [members, descendants, allCollections]
  | case4 he =>
    subst he; cases d <;> simp [members, descendants, allCollections, Function.comp_def, ← List.map_eq_flatMap]
  | case6 c hf =>
    have hc1 : c.1 = reqPath := by simpa using List.find?_some hf
    cases d <;> simp [← List.isSome_find?, hc1, descendants, members, hf, Function.comp_def]
  | case8 hobj => rw [hobj]; cases d <;> simp [members, descendants]
  -- the paths that are not exposed
  | case3 he => simp [he]
  | case5 he => simp [he]
  | case7 hf => simp [← List.isSome_find?, hf]
  | case9 hobj => rw [Bool.eq_false_iff.mpr hobj]; rfl
  | case10 => simp

end GoWebdav.Props.C11
