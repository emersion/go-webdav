import GoWebdav.Lemmas.Upload
import GoWebdav.Generated.Facts
import GoWebdav.Expected.Concurrency
/-!
# C18 — Handlers and clients are safe for concurrent use; uploads always terminate

What a theorem can carry here is (a) the upload protocol as a labelled transition system, for every caller program,
every chunk budget of the server, patient and impatient servers, drops and stalls ended by cancellation, and every
interleaving: termination, deadlock freedom, and the result of `Close`; (b) the absence of shared mutable library
state, as kernel-checked equalities on facts regenerated from the source on every run.

PARTIAL: data races in the Go memory model and real scheduler behaviour cannot be exhibited by a model; they are
covered by validation runs only (N clients × M operations on disjoint subtrees under `-race`, and the upload fault
matrix against real net/http), never presented as proof.
-/
namespace GoWebdav.Props.C18
open GoWebdav.Impl.Upload GoWebdav.Lemmas.Upload

/-- no infinite run: from every state every run is finite, under every interleaving and every listed fault -/
theorem C18_upload_terminates (s : State) : Acc (fun a b => Step b a) s := terminates s

/-- no reachable state is stuck before the upload is over — also against a server that answers only after EOF
    (this is where `Close` closing the pipe before waiting matters) -/
theorem C18_upload_deadlock_free {n b : Nat} {p : Bool} {s : State} (h : Reachable (init n p b) s) (hnf : ¬ Final s) :
    ∃ s', Step s s' := deadlock_free h hnf

/-- `Close` returns nil exactly when the server answered 2xx; when it returns the library goroutine has exited -/
theorem C18_close_result {n b : Nat} {p : Bool} {s : State} (h : Reachable (init n p b) s) (ok : Bool)
    (hc : s.c = .returned ok) : s.g = .exited ∧ s.t.finished = some ok := close_result h ok hc

/-- in a final state nothing of the library is left running and the request body has been closed -/
theorem C18_no_goroutine_outlives {s : State} (h : Final s) : s.g = .exited ∧ s.readerClosed = true := ⟨h.2.1, h.2.2⟩

/-- no function of the four packages assigns to a package-level variable -/
theorem C18_no_shared_state_written :
    Generated.internalGlobalWrites = [] ∧ Generated.webdavGlobalWrites = [] ∧
    Generated.caldavGlobalWrites = [] ∧ Generated.carddavGlobalWrites = [] := by decide

/-- the only goroutine and channel of the library are those of `Client.Create`, with capacity 1 and a send on
    every exit of the goroutine -/
theorem C18_upload_goroutine_shape :
    Generated.webdavConcurrency = Expected.webdavConcurrency ∧ Generated.internalConcurrency = [] ∧
    Generated.caldavConcurrency = [] ∧ Generated.carddavConcurrency = [] := by decide

/-- `Close` closes the pipe before it waits; each exit of the goroutine sends exactly once -/
theorem C18_upload_event_order : Generated.webdavChanEvents = Expected.webdavChanEvents := by decide

-- non-vacuity: a run against a patient server that ends with Close = nil
example : Reachable (init 1 true 0) ⟨.returned true, .answered true, .exited, true, true, none⟩ := by
  refine .step (.step (.step (.step (.step (.step (.step .refl (.consumeP 0 0 _ _ _)) (.close _ _ _ _ _)) (.answerEOF _ true 0 _ _ _ true)) (.closeBody _ _ _ _ _ true rfl)) (.doReturns _ _ _ _ _ true rfl)) (.send _ _ _ _ true)) (.recv _ _ _ _ true)

/-- the types whose values serve requests or make calls on behalf of several goroutines at once -/
def serviceTypes : List String := ["Handler", "backend", "Client", "LocalFileSystem", "fileWriter", "basicAuthHTTPClient"]

/-- regenerated fact: no method of a handler, a backend adapter, a client or the local file system assigns through its
    receiver — whatever is written through a pointer receiver anywhere in the four packages belongs to a decoder filling
    in its own value (`*etag`, `s.Code`, `r.Query` …), a response under construction, or the cursor of a raw-value
    reader created per call.  A cache field on a handler, a memoised endpoint on a client would show here. -/
theorem C18_service_values_keep_no_state :
    (Generated.internalReceiverWriteTypes ++ Generated.webdavReceiverWriteTypes ++ Generated.caldavReceiverWriteTypes ++
      Generated.carddavReceiverWriteTypes).all (fun t => !serviceTypes.contains t) = true := by
  decide

/-- regenerated fact: no function of the four packages changes state of the whole PROCESS (umask, working directory,
    environment, default logger, …) — not even for the duration of one call: what a request does to a resource cannot
    depend, through the process, on what another goroutine is doing meanwhile (seeded change C18-o cleared the umask
    while a COPY ran) -/
theorem C18_no_process_state_touched :
    Generated.internalProcessStateCalls = [] ∧ Generated.webdavProcessStateCalls = [] ∧
    Generated.caldavProcessStateCalls = [] ∧ Generated.carddavProcessStateCalls = [] := by decide

end GoWebdav.Props.C18
