import GoWebdav.Lemmas.Validate
/-!
# C19 — ValidateCalendarObject enforces the RFC 4791 §4.1 object rules

`Impl.Validate.validate` mirrors `caldav.ValidateCalendarObject`; `Spec.Validate.Valid`/`result`
restate the property.  Hypothesis `NamesNonEmpty`: no component has the empty name (go-ical's decoder
never produces one; an empty name would be indistinguishable from "no type seen yet" in the Go code).
-/
namespace GoWebdav.Props.C19
open GoWebdav.Impl.Validate GoWebdav.Spec.Validate GoWebdav.Lemmas.Validate

def NamesNonEmpty (cs : List Comp) : Prop := ∀ c ∈ cs, c.name ≠ ""
instance (cs : List Comp) : Decidable (NamesNonEmpty cs) := by unfold NamesNonEmpty; infer_instance

/-- what the Go function hands back: `(eventType, uid, err != nil)` -/
def goResult (m : Bool) (cs : List Comp) : String × String × Bool :=
  match validate m cs with
  | .ok (t, u) => (t, u, false)
  | .error _ => ("", "", true)

/-- full characterisation in one statement -/
theorem C19_validate_eq (m : Bool) (cs : List Comp) (hn : NamesNonEmpty cs) (r : String × String) :
    validate m cs = .ok r ↔ Valid m cs ∧ r = result cs := by
  unfold validate Valid result
  cases m with
  | true => simp
  | false =>
    obtain ⟨r1, r2⟩ := r
    simp only [Bool.false_eq_true, if_false, true_and, loop_ok, foldlM_absorb _ (types_ne_empty hn),
      foldlM_absorb _ (uids_ne_empty cs), if_true, allEq_iff_head, Prod.mk.injEq]
    constructor
    · rintro ⟨h1, ⟨rfl, h2⟩, rfl, h3⟩; exact ⟨⟨h1, h2, h3⟩, rfl, rfl⟩
    · rintro ⟨⟨h1, h2, h3⟩, rfl, rfl⟩; exact ⟨h1, ⟨rfl, h2⟩, rfl, h3⟩

/-- accepted exactly when the calendar is valid in the sense of the property -/
theorem C19_accepts_iff (m : Bool) (cs : List Comp) (hn : NamesNonEmpty cs) :
    (∃ r, validate m cs = .ok r) ↔ Valid m cs :=
  ⟨fun ⟨r, h⟩ => ((C19_validate_eq m cs hn r).mp h).1, fun hv => ⟨_, (C19_validate_eq m cs hn _).mpr ⟨hv, rfl⟩⟩⟩

/-- on acceptance the single component type and the single UID are returned -/
theorem C19_returns_type_uid (m : Bool) (cs : List Comp) (hn : NamesNonEmpty cs) (r : String × String)
    (h : validate m cs = .ok r) : r = result cs := ((C19_validate_eq m cs hn r).mp h).2

/-- on rejection the results are empty -/
theorem C19_reject_empty_results (m : Bool) (cs : List Comp) :
    (goResult m cs).2.2 = true → (goResult m cs).1 = "" ∧ (goResult m cs).2.1 = "" := by
  unfold goResult
  cases validate m cs with
  | ok r => simp
  | error e => simp

/-- rejection happens exactly for invalid calendars -/
theorem C19_rejects_iff (m : Bool) (cs : List Comp) (hn : NamesNonEmpty cs) :
    (goResult m cs).2.2 = true ↔ ¬ Valid m cs := by
  rw [← C19_accepts_iff m cs hn]
  unfold goResult
  cases validate m cs with
  | ok r => simp
  | error e => simp

-- non-vacuity: a valid three-component calendar, and invalid ones of each kind
example : NamesNonEmpty [⟨"VTIMEZONE", .none⟩, ⟨"VEVENT", .text "a"⟩, ⟨"VEVENT", .text "a"⟩] ∧
    validate false [⟨"VTIMEZONE", .none⟩, ⟨"VEVENT", .text "a"⟩, ⟨"VEVENT", .text "a"⟩] = .ok ("VEVENT", "a") := by
  decide
example : validate false [⟨"VEVENT", .text "a"⟩, ⟨"VTODO", .text "a"⟩] = .error .types := by decide
example : validate false [⟨"VEVENT", .text "a"⟩, ⟨"VEVENT", .none⟩, ⟨"VEVENT", .text "b"⟩] = .error .uids := by decide
example : validate true [⟨"VEVENT", .text "a"⟩] = .error .method := by decide

end GoWebdav.Props.C19
