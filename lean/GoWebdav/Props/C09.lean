import GoWebdav.Impl.CarddavWire
/-!
# C09 — CardDAV queries cross the wire without loss, in RFC 6352 form

`Impl.CarddavWire.encodeQuery` is client API → element tree (client.go + the struct tags of elements.go),
`decodeQuery` is element tree → what the backend receives (elements.go + server.go).  The tree of the bytes the real
client sent is judged by the driver with the independent strict RFC 6352 reader `Spec.CarddavWire.readQuery`
(`Props/C09Rfc.lean`); the independent writer is in the harness (xmlwriter.go).

This module holds the definitions of what a caller can express and the field-level round trips; the statements for
every query and for every document are in `Props/C09Full.lean` and `Props/C09Rfc.lean`, which stand above the lemma files
that need these definitions.
-/
namespace GoWebdav.Props.C09
open GoWebdav GoWebdav.Std.Xml GoWebdav.Impl.CarddavWire GoWebdav.Generated

def validTest (t : String) : Bool := t = "" || carddavFilterTests.contains t
def validMatchType (t : String) : Bool := t = "" || carddavMatchTypes.contains t

def TMok (t : TextMatch) : Prop := validMatchType t.matchType = true
def Paramok (p : ParamFilter) : Prop := (p.isNotDefined = true → p.textMatch = none) ∧ ∀ t, p.textMatch = some t → TMok t
def PFok (p : PropFilter) : Prop :=
  validTest p.test = true ∧ (p.isNotDefined = true → p.textMatches = [] ∧ p.params = []) ∧
  (∀ t ∈ p.textMatches, TMok t) ∧ (∀ pm ∈ p.params, Paramok pm)
/-- what a caller can express in RFC 6352: grammar enumeration values, is-not-defined excludes its siblings -/
def Expressible (q : Query) : Prop := validTest q.filterTest = true ∧ ∀ pf ∈ q.propFilters, PFok pf

/-- the request as the backend must receive it: properties are dropped when all-properties is asked for,
    a non-positive limit means unlimited (0) -/
def denotes (q : Query) : Query :=
  { q with props := if q.allProp then [] else q.props, limit := if q.limit > 0 then q.limit else 0 }

theorem negate_roundtrip (b : Bool) (rest : List (QName × String)) (hrest : attr rest "negate-condition" = none) :
    decNegate (negAttr b ++ rest) = .ok b := by
  cases b
  · simp [negAttr, carddavNegateFormat, decNegate, hrest]
  · simp [negAttr, carddavNegateFormat, decNegate, attr, att, carddavNegateParse]

theorem attr_append_atOpt (pre : List (QName × String)) (loc v : String) (hpre : attr pre loc = none) :
    attr (pre ++ atOpt loc v) loc = if v = "" then none else some v := by
  rw [attr, Option.map_eq_none_iff] at hpre
  rw [attr, List.find?_append, hpre, Option.none_or, atOpt]
  split <;> simp [att]

theorem attr_atOpt_ne (loc v loc' : String) (h : loc ≠ loc') : attr (atOpt loc v) loc' = none := by
  unfold atOpt; split <;> simp [attr, att, h]

theorem matchType_roundtrip (b : Bool) (mt : String) (h : validMatchType mt = true) :
    decEnum carddavMatchTypes (negAttr b ++ atOpt "match-type" mt) "match-type" = .ok mt := by
  have hpre : attr (negAttr b) "match-type" = none := by cases b <;> simp [negAttr, carddavNegateFormat, attr, att]
  rw [decEnum, attr_append_atOpt _ _ _ hpre]
  by_cases hm : mt = ""
  · simp [hm]
  · have hv : carddavMatchTypes.contains mt = true := by simpa [validMatchType, hm] using h
    simp only [hm, if_false, hv, if_true]

/-- every text-match with its text (blanks and XML metacharacters are just characters of the tree), match type and
    negate-condition survives -/
theorem textMatch_roundtrip (t : TextMatch) (h : TMok t) : decTextMatch (encTextMatch t) = .ok t := by
  unfold TMok at h
  have h1 := attr_atOpt_ne "match-type" t.matchType "negate-condition" (by simp)
  unfold encTextMatch decTextMatch el
  simp only [checkNs, Node.space?, if_true, bind, Except.bind, negate_roundtrip t.negate _ h1, matchType_roundtrip t.negate t.matchType h,
    chardata_textNodes, pure, Except.pure]

/-- an enumeration value outside the grammar is refused -/
theorem C09_invalid_enum_refused (valid : List String) (attrs : List (QName × String)) (loc v : String)
    (ha : attr attrs loc = some v) (hv : valid.contains v = false) : decEnum valid attrs loc = .error .badRequest := by
  unfold decEnum
  have hm : ¬ v ∈ valid := by simpa using hv
  simp [ha, hm]

/-- an invalid negate-condition value is refused -/
theorem C09_invalid_negate_refused (attrs : List (QName × String)) (v : String)
    (ha : attr attrs "negate-condition" = some v) (hv : v ≠ "yes" ∧ v ≠ "no") : decNegate attrs = .error .badRequest := by
  unfold decNegate carddavNegateParse; simp [ha, hv.1, hv.2]

theorem isSp_digit (c : Char) (h : (Std.Decimal.digitVal c).isSome = true) : isSp c = false := by
  cases hs : isSp c with
  | false => rfl
  | true =>
    simp only [isSp, Bool.or_eq_true, decide_eq_true_eq] at hs
    rcases hs with ((rfl | rfl) | rfl) | rfl <;> cases h

theorem trimAscii_digits (l : List Char) (h : ∀ c ∈ l, (Std.Decimal.digitVal c).isSome = true) : trimAscii l = l := by
  have hd : ∀ l : List Char, (∀ c ∈ l, (Std.Decimal.digitVal c).isSome = true) → l.dropWhile isSp = l := fun l h => by
    cases l with
    | nil => rfl
    | cons a as => simp [isSp_digit a (h a (by simp))]
  unfold trimAscii
  rw [hd l h, hd l.reverse (fun c hc => h c (List.mem_reverse.mp hc)), List.reverse_reverse]

theorem decLimit_nresults (a a' : List (QName × String)) (tc : List Node) (v : Nat)
    (hd : Std.Decimal.readDigits 0 (chardata tc).toList = some v) (hne : (chardata tc).toList.isEmpty = false)
    (hv : v < 9223372036854775808) :
    decLimit [.elem ⟨nsCard, "limit"⟩ a [.elem ⟨nsCard, "nresults"⟩ a' tc]] = .ok (some v) := by
  have h1 : ¬ v ≥ 18446744073709551616 := by omega
  have h2 : ¬ v ≥ 9223372036854775808 := by omega
  simp only [decLimit, List.filter_cons, Node.localIs, beq_self_eq_true, if_true, List.filter_nil, List.getLast?_singleton,
    Node.space?, ne_eq, not_true_eq_false, if_false, trimAscii_digits _ (Std.Decimal.readDigits_all_digits 0 _ v hd), hne, Bool.false_eq_true,
    hd, h1, h2]

/-- a positive limit survives, for every positive Go `int`, i.e. below 2^63: the server reads `nresults` into a 64-bit
    unsigned and converts to `int`.  That a non-positive one is not sent and what `nresults` 0 decodes to are in
    `C09_limit_edge_cases`. -/
theorem C09_limit (k : Nat) (hk : k ≠ 0) (hmax : k < 9223372036854775808) : decLimit (encLimit (k : Int)) = .ok (some k) := by
  have hpos : (k : Int) > 0 := by omega
  have hd : (chardata [.text (String.ofList (Std.Decimal.natDigits (k : Int).toNat))]).toList = Std.Decimal.natDigits k := by
    simp [chardata]
  rw [encLimit, if_pos hpos]
  exact decLimit_nresults [] [] _ k (by rw [hd, Std.Decimal.readDigits_natDigits])
    (by rw [hd]; simpa using Std.Decimal.natDigits_ne_nil k) hmax

theorem C09_limit_edge_cases :
    decLimit (encLimit 0) = .ok none ∧ decLimit (encLimit (-3)) = .ok none ∧
    decLimit [el "limit" [] [el "nresults" [] [.text "0"]]] = .ok (some 0) ∧
    decLimit [el "limit" [] [el "nresults" [] [.text " 7\n"]]] = .ok (some 7) ∧
    decLimit [el "limit" [] [el "nresults" [] [.text "-1"]]] = .error .badRequest ∧
    decLimit [el "limit" [] [el "nresults" [] [.text "many"]]] = .error .badRequest := by decide +kernel

def exQuery : Query :=
  { allProp := false, props := ["FN", "EMAIL"], filterTest := "allof", limit := 0,
    propFilters := [⟨"EMAIL", "anyof", false, [⟨" a<b ", true, "starts-with"⟩, ⟨"", false, ""⟩], [⟨"TYPE", false, some ⟨"home", false, "equals"⟩⟩, ⟨"PREF", true, none⟩]⟩,
                    ⟨"TEL", "", true, [], []⟩] }

/-- a query using every feature survives client → wire → backend unchanged -/
theorem C09_roundtrip_witness : (encodeQuery exQuery).bind (fun n => decodeQuery n) = .ok (some (denotes exQuery)) := by decide +kernel

example : decTextMatch (encTextMatch ⟨" a<b ", true, "starts-with"⟩) = .ok ⟨" a<b ", true, "starts-with"⟩ := by decide +kernel

end GoWebdav.Props.C09
