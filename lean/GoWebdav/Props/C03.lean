import GoWebdav.Impl.Path
import GoWebdav.Lemmas.Path
import GoWebdav.Lemmas.Url
/-!
# C03 — The file server never touches anything outside the served directory (path mapping part)

Every file-system call of `LocalFileSystem` is made on `localPath(name)` (or on a path `filepath.Walk` reports
below it).  These theorems are about that mapping, for EVERY byte string.
-/
namespace GoWebdav.Props.C03
open GoWebdav GoWebdav.Std.Path GoWebdav.Impl.Path GoWebdav.Lemmas.Path

theorem localPath_ok_iff (root : List Seg) (name : Bytes) (p : List Seg) :
    localPath root name = .ok p ↔ name.contains 0 = false ∧ isAbs name = true ∧ p = root ++ rootedSegs name := by
  unfold localPath
  rw [isAbs_clean]
  cases name.contains 0 <;> cases isAbs name <;> simp [eq_comm]

/-- whatever the request path or Destination bytes are, a successful mapping lies below the root and every segment
    below the root is normal: not empty, not `.`, not `..`, and free of separators -/
theorem C03_localPath_confined (root : List Seg) (name : Bytes) (p : List Seg) (h : localPath root name = .ok p) :
    ∃ below, p = root ++ below ∧ ∀ s ∈ below, Normal s :=
  ⟨rootedSegs name, ((localPath_ok_iff root name p).mp h).2.2, rootedSegs_normal name⟩

/-- a path that contains NUL or is not rooted cannot be mapped and is refused (400) -/
theorem C03_localPath_refuses (root : List Seg) (name : Bytes) (h : name.contains 0 = true ∨ isAbs name = false) :
    ∃ e, localPath root name = .error e := by
  cases hl : localPath root name with
  | error e => exact ⟨e, rfl⟩
  | ok p =>
    obtain ⟨h0, ha, _⟩ := (localPath_ok_iff root name p).mp hl
    rcases h with h | h
    · rw [h0] at h; cases h
    · rw [ha] at h; cases h

/-- … and everything else is mapped -/
theorem C03_localPath_total (root : List Seg) (name : Bytes) (h0 : name.contains 0 = false) (ha : isAbs name = true) :
    localPath root name = .ok (root ++ rootedSegs name) :=
  (localPath_ok_iff root name _).mpr ⟨h0, ha, rfl⟩

/-- a reported path (multi-status href) lies inside the served namespace and addresses the same resource when it is
    sent back: percent-decoding the href gives the external path, and mapping that gives the host path it was produced for -/
theorem C03_href_inside_and_stable (root below : List Seg) (hb : ∀ s ∈ below, Normal s) (hnul : ∀ s ∈ below, (0 : UInt8) ∉ s) :
    Std.Url.unescape (Std.Url.escapePath (externalPath below)) = some (externalPath below) ∧
    localPath root (externalPath below) = .ok (root ++ below) := by
  refine ⟨Lemmas.Url.unescape_escapePath _, ?_⟩
  have key : (externalPath below).contains 0 = false ∧ rootedSegs (externalPath below) = below := by
    by_cases hne : below = []
    · subst hne; decide
    · simp only [externalPath, hne, if_false, joinSegs_render below hne]
      refine ⟨?_, by simpa using rootedSegs_render below hb hne false⟩
      -- a byte of the rendered path is the separator or a byte of a segment, and neither is NUL
      simp only [List.contains_eq_mem, decide_eq_false_iff_not]
      intro h
      rcases mem_renderSegs h with h | ⟨s, hs, h⟩
      · cases h
      · exact hnul s hs h
  rw [C03_localPath_total root _ key.1 (by simp [externalPath, isAbs]), key.2]

-- non-vacuity: "/a/../../etc//passwd\x00"-like inputs
example : localPath [[115]] [47, 97, 47, 46, 46, 47, 46, 46, 47, 101] = .ok [[115], [101]] := by decide
example : localPath [[115]] [47, 97, 0] = .error .invalidChar := by decide
example : localPath [[115]] [97] = .error .notAbs := by decide

/-- the spelling of the served directory does not matter: `filepath.Join(root, name)` is `Clean(root + "/" + name)`,
    and for EVERY absolute spelling of the root (trailing slashes, `/./`, `//`, `sibling/..`) and every mapped name it
    resolves to the cleaned root followed by the name's segments.  (That the mapping below the root, and with it a
    reported href, `Rel` of two such paths, is then the same for all spellings of one directory is the consequence this
    is stated for; it is not part of the statement.) -/
theorem C03_root_spelling_irrelevant (spelled : Bytes) (below : List Seg) (hb : ∀ s ∈ below, Normal s) (hne : below ≠ []) :
    rootedSegs (spelled ++ slash :: joinSegs below) = rootedSegs spelled ++ below :=
  Lemmas.Path.rootedSegs_join spelled below hb hne

/-- "/srv/dav/", "/srv/./dav", "/srv//dav" and "/srv/x/../dav" are the directory /srv/dav -/
example : rootedSegs [47, 115, 47, 100, 47] = [[115], [100]] ∧ rootedSegs [47, 115, 47, 46, 47, 100] = [[115], [100]] ∧
    rootedSegs [47, 115, 47, 47, 100] = [[115], [100]] ∧ rootedSegs [47, 115, 47, 120, 47, 46, 46, 47, 100] = [[115], [100]] := by
  decide

end GoWebdav.Props.C03
