import GoWebdav.Spec.Frontend
import GoWebdav.Props.C01
/-!
# C13 — Servers answer every request without panicking; malformed input gets 4xx

Three layers, each over its own model:

* CalDAV / CardDAV handlers and the principal helper (`Impl.Frontend`, request descriptors): every request gets one
  of nine status codes; a malformed request gets 4xx and reaches no create/update/delete call; 5xx is only ever 501,
  for a well-formed request to an unimplemented method; a mutating call only happens on a 2xx path.
* WebDAV file server (`Impl.Webdav.step`, concrete trees and requests): from the refinement of C01 — every request
  whose refusal set is non-empty (invalid Depth / Overwrite / Destination / Content-Type / body form included) is
  answered with a code of that set, all 4xx, and the tree is unchanged.
* REPORT documents (`Impl.CaldavWire`, `Impl.CarddavWire`): the decoders are total functions into
  `ok | badRequest` (and `abstain` for documents outside the model), so the only failure status is 400.

"Without panicking" is a statement about the Go runtime: the models are total by construction; the tie is family
`srvfront` (every call under `recover`), the regenerated list of explicit `panic` sites (pinned per file by
`Props/Pin/*PanicsByFile`), and C15/C16 which prove the internal panic sites unreachable.  go-ical's decoder panics on
two malformed content lines, reachable through CalDAV PUT: `caldav.decodeCalendar` recovers since repair b778844
(known_findings.json, class ical-decoder-panic, under `fixed`).
-/
namespace GoWebdav.Props.C13
open GoWebdav GoWebdav.Impl.Frontend GoWebdav.Spec.Frontend

/-- `Lemmas.Dispatch.handlerOf_eq` under the name the check registry (props_index.json) has for it -/
theorem handlerOf_eq (m : String) : handlerOf m =
    if m = "OPTIONS" then "h.handleOptions" else if m = "GET" then "h.Backend.HeadGet" else if m = "HEAD" then "h.Backend.HeadGet"
    else if m = "PUT" then "h.Backend.Put" else if m = "DELETE" then "h.Backend.Delete" else if m = "PROPFIND" then "h.handlePropfind"
    else if m = "PROPPATCH" then "h.handleProppatch" else if m = "MKCOL" then "h.Backend.Mkcol" else if m = "COPY" then "h.handleCopyMove"
    else if m = "MOVE" then "h.handleCopyMove" else "HTTPErrorf" := Lemmas.Dispatch.handlerOf_eq m

/-- answered 4xx without a create, update or delete call -/
abbrev Refused (o : Out) : Prop := 400 ≤ o.status ∧ o.status < 500 ∧ o.mutated = false

theorem refused_400 : Refused (refuse 400) := by decide

theorem decodeXmlRequest_error {m : String} {ct : CType} {b : Body} {o : Out} (h : decodeXmlRequest m ct b = .error o) :
    o = refuse 400 := by
  revert h
  fun_cases decodeXmlRequest m ct b <;> rintro ⟨⟩ <;> rfl

/-- the property's "bad XML" is the model's "does not decode to a document the method can use": decoding fails, or yields a
    propfind naming no form, or a mkcol without the collection type -/
theorem decodeXmlRequest_bad (m : String) (ct : CType) (b : Body) (h : (badXml m b || !isXml ct) = true) :
    decodeXmlRequest m ct b = .error (refuse 400) ∨ m = "PROPFIND" ∧ decodeXmlRequest m ct b = .ok .noForm ∨
      m = "MKCOL" ∧ decodeXmlRequest m ct b = .ok .badRt := by
  unfold decodeXmlRequest
  cases hx : isXml ct
  · exact .inl rfl
  · simp only [hx, Bool.not_true, Bool.or_false] at h
    cases b <;> simp_all [badXml, decodeXml]
    -- left: the mkcol body without the collection type, which is such a document for MKCOL only
    split <;> simp_all

/-- for the methods that have no document of their own to accept (all but PROPFIND and MKCOL) -/
theorem decodeXmlRequest_refuses {m : String} (ct : CType) (b : Body) (hp : m ≠ "PROPFIND") (hk : m ≠ "MKCOL")
    (h : (badXml m b || !isXml ct) = true) : decodeXmlRequest m ct b = .error (refuse 400) :=
  (decodeXmlRequest_bad m ct b h).resolve_right fun h' => h'.elim (hp ·.1) (hk ·.1)

-- `X_core`: a malformed request to handler `X` is `Refused`, on the handler's continuation `XK` (its arguments are the parts
-- of the request the handler looks at)
theorem proppatch_core (card : Bool) (ct : CType) (b : Body) (h : (badXml "PROPPATCH" b || !isXml ct) = true) :
    Refused (proppatchK card ct b) := by
  unfold proppatchK
  rw [decodeXmlRequest_refuses ct b (by decide) (by decide) h]; exact refused_400

theorem report_core (ct : CType) (b : Body) (h : (badXml "REPORT" b || !isXml ct) = true) : Refused (reportK ct b) := by
  unfold reportK
  rw [decodeXmlRequest_refuses ct b (by decide) (by decide) h]; exact refused_400

theorem principal_core (ct : CType) (b : Body) (hb : b ≠ .empty) (h : (badXml "PROPFIND" b || !isXml ct) = true) :
    Refused (principalPropfindK ct b) := by
  unfold principalPropfindK
  rw [if_neg hb]
  rcases decodeXmlRequest_bad _ ct b h with e | ⟨_, e⟩ | ⟨hm, _⟩
  · rw [e]; exact refused_400
  · rw [e]; exact refused_400
  · exact absurd hm (by decide)

theorem mkcol_core (lvl : Bool) (ct : CType) (b : Body) (hb : b ≠ .empty) (h : (badXml "MKCOL" b || !isXml ct) = true) :
    Refused (mkcolK lvl ct b) := by
  unfold mkcolK
  cases lvl
  · exact (by decide : Refused (refuse 403))
  · rw [if_neg (by decide), if_neg hb]
    rcases decodeXmlRequest_bad _ ct b h with e | ⟨hm, _⟩ | ⟨_, e⟩
    · rw [e]; exact refused_400
    · exact absurd hm (by decide)
    · rw [e]; exact refused_400

theorem put_core (ct : CType) (b : Body) (h : ¬ (ct = .obj ∨ ct = .objparam) ∨ b ≠ .objok) : Refused (putK ct b) := by
  fun_cases putK ct b with
  -- the two exits that store the object: the media type is the server's, so `h` says the body does not parse
  | case1 hb => exact absurd hb (h.resolve_left (not_not_intro (.inl rfl)))
  | case3 hb => exact absurd hb (h.resolve_left (not_not_intro (.inr rfl)))
  | _ => exact refused_400

theorem copyMove_core (isCopy : Bool) (dst : Dst) (ow : Ow) (d : Depth) (h : dst ≠ .ok ∨ ow = .bad ∨ d = .bad) :
    Refused (copyMoveK isCopy dst ow d) := by
  fun_cases copyMoveK isCopy dst ow d with
  -- one of the first three tests fires, so the exit to 501 is closed; every other exit answers 400
  | case6 h1 h2 h3 => exact (h.elim h1 (·.elim h2 h3)).elim
  | _ => exact refused_400

/-- the decoding step of PROPFIND: XML is decoded, anything else must be empty and then means allprop -/
theorem propfind_decoded (ct : CType) (b : Body) :
    let r : Except Out XmlResult :=
      if isXml ct then decodeXmlRequest "PROPFIND" ct b else if b = .empty then .ok .ok else .error (refuse 400)
    (∀ o, r = .error o → o = refuse 400) ∧
      ∀ x, r = .ok x → (isXml ct && badXml "PROPFIND" b || !isXml ct && b != .empty) = true → x = .noForm := by
  intro r
  cases hx : isXml ct
  · -- not XML: an empty body is accepted and is not malformed, any other is refused
    by_cases hb : b = .empty <;> simp [r, hx, hb]
  · simp only [r, hx, if_true]
    refine ⟨fun o => decodeXmlRequest_error, fun x hd hbad => ?_⟩
    rcases decodeXmlRequest_bad "PROPFIND" ct b (by simp_all) with e | ⟨_, e⟩ | ⟨hm, _⟩
    · cases hd.symm.trans e
    · cases hd.symm.trans e; rfl
    · exact absurd hm (by decide)

theorem propfind_core (ct : CType) (b : Body) (d : Depth) (missing deep : Bool)
    (h : (isXml ct && badXml "PROPFIND" b || !isXml ct && b != .empty) = true ∨ d = .bad) :
    Refused (propfindK ct b d missing deep) := by
  fun_cases propfindK ct b d missing deep with
  | case1 decoded o hdec => cases (propfind_decoded ct b).1 o hdec; exact refused_400
  -- with a valid Depth the document names no form: the exit to 207 is closed, the others answer 404 or 400
  | case6 decoded x hdec hd _ _ hx => exact absurd ((propfind_decoded ct b).2 x hdec (h.resolve_right hd)) hx
  | _ => decide

/-- every malformed request to the CalDAV / CardDAV handlers or the principal helper is answered 4xx and reaches no
    create, update or delete call of the backend -/
theorem C13_malformed_4xx (r : Req) (h : malformed r = true) :
    400 ≤ (serve r).status ∧ (serve r).status < 500 ∧ (serve r).mutated = false := by
  unfold malformed at h
  unfold serve
  split at h
  · next hs =>
    simp only [hs, Bool.and_eq_true, decide_eq_true_eq, bne_iff_ne] at h ⊢
    obtain ⟨⟨hm, hb⟩, hbad⟩ := h
    unfold principalServe
    rw [if_neg (by rw [hm]; decide), if_pos hm]
    exact principal_core r.ctype r.body hb (hm ▸ hbad)
  · next hs =>
    -- the CalDAV and the CardDAV handler go through the same switch
    split
    · next hp => exact (hs hp).elim
    simp only [Bool.or_eq_true, Bool.and_eq_true, decide_eq_true_eq, bne_iff_ne] at h ⊢
    rw [Lemmas.Dispatch.davServe_eq]
    rcases h with (((⟨hm | hm, hb⟩ | ⟨hm, hb⟩) | ⟨⟨hm, hne⟩, hb⟩) | ⟨hm, hb⟩) | ⟨hm | hm, hb⟩ <;>
      simp +decide only [hm, if_false, if_true]
    · exact proppatch_core _ r.ctype r.body (by rw [← hm]; simpa using hb)
    · exact report_core r.ctype r.body (by rw [← hm]; simpa using hb)
    · exact propfind_core r.ctype r.body r.depth _ _ (by rw [← hm]; simpa using hb)
    · exact mkcol_core _ r.ctype r.body hne (by rw [← hm]; simpa using hb)
    · exact put_core r.ctype r.body (by simpa using hb)
    · exact copyMove_core _ r.dst r.ow r.depth (by simpa [or_assoc] using hb)
    · exact copyMove_core _ r.dst r.ow r.depth (by simpa [or_assoc] using hb)

def okCodes : List Nat := [200, 201, 204, 207, 400, 403, 404, 405, 501]

abbrev Answer (o : Out) : Prop := o.status ∈ okCodes ∧ (o.mutated = true → o.status = 201 ∨ o.status = 204)

theorem answer_ite {c : Prop} [Decidable c] {a b : Out} (ha : Answer a) (hb : Answer b) : Answer (if c then a else b) := by
  split <;> assumption

theorem answer_of_error {m : String} {ct : CType} {b : Body} {o : Out} (h : decodeXmlRequest m ct b = .error o) : Answer o := by
  cases decodeXmlRequest_error h; decide

-- `X_answer`: whatever the request, handler `X` gives an `Answer`: every exit names its code and whether a call was made,
-- but the one that hands on the refusal of the decoding step
theorem propfind_answer (ct : CType) (b : Body) (d : Depth) (m dp : Bool) : Answer (propfindK ct b d m dp) := by
  fun_cases propfindK ct b d m dp with
  | case1 decoded o hdec => cases (propfind_decoded ct b).1 o hdec; decide
  | _ => decide

theorem proppatch_answer (c : Bool) (ct : CType) (b : Body) : Answer (proppatchK c ct b) := by
  fun_cases proppatchK c ct b with
  | case1 o hd => exact answer_of_error hd
  | _ => decide

theorem report_answer (ct : CType) (b : Body) : Answer (reportK ct b) := by
  fun_cases reportK ct b with
  | case1 o hd => exact answer_of_error hd
  | _ => decide

theorem principal_answer (ct : CType) (b : Body) : Answer (principalPropfindK ct b) := by
  fun_cases principalPropfindK ct b with
  | case2 _ o hd => exact answer_of_error hd
  | _ => decide

theorem mkcol_answer (l : Bool) (ct : CType) (b : Body) : Answer (mkcolK l ct b) := by
  fun_cases mkcolK l ct b with
  | case3 _ _ o hd => exact answer_of_error hd
  | _ => decide

theorem put_answer (ct : CType) (b : Body) : Answer (putK ct b) := by
  fun_cases putK ct b <;> decide

theorem copyMove_answer (c : Bool) (dst : Dst) (ow : Ow) (d : Depth) : Answer (copyMoveK c dst ow d) := by
  fun_cases copyMoveK c dst ow d <;> decide

theorem headGet_answer (r : Req) : Answer (headGet r) := by
  fun_cases headGet r <;> decide

theorem delete_answer (r : Req) : Answer (delete r) := by
  fun_cases delete r <;> decide

/-- a complete answer with one of nine status codes for EVERY request descriptor (any method string, any level), and
    a create/update/delete call only ever happens on a path that answers 201 or 204 -/
theorem C13_complete_answer (r : Req) :
    (serve r).status ∈ okCodes ∧ ((serve r).mutated = true → (serve r).status = 201 ∨ (serve r).status = 204) := by
  unfold serve
  split
  · unfold principalServe
    exact answer_ite (by decide) (answer_ite (principal_answer _ _) (by decide))
  · -- whatever handler the method switch names, it is one of these
    unfold davServe
    exact answer_ite (report_answer _ _) <| answer_ite (by decide) <| answer_ite (headGet_answer r) <|
      answer_ite (put_answer _ _) <| answer_ite (delete_answer r) <| answer_ite (propfind_answer _ _ _ _ _) <|
      answer_ite (proppatch_answer _ _ _) <| answer_ite (mkcol_answer _ _ _) <| answer_ite (copyMove_answer _ _ _ _) (by decide)

/-- the only 5xx these handlers ever produce is 501 Not Implemented -/
theorem C13_only_5xx_is_501 (r : Req) (h : (serve r).status ≥ 500) : (serve r).status = 501 := by
  have hc := (C13_complete_answer r).1
  simp only [okCodes, List.mem_cons, List.not_mem_nil, or_false] at hc
  omega

/-- …and never for a malformed request -/
theorem C13_501_is_wellformed (r : Req) (h : (serve r).status = 501) : malformed r = false := by
  cases hm : malformed r
  · rfl
  · have := C13_malformed_4xx r hm; omega

-- non-vacuity: malformed descriptors exist at every layer, and so do well-formed ones
example : malformed ⟨.cal, "REPORT", 3, true, .xml, .trunc, .absent, .absent, .absent⟩ = true := by decide
example : malformed ⟨.card, "PUT", 4, false, .obj, .objbad, .absent, .absent, .absent⟩ = true := by decide
example : malformed ⟨.prin, "PROPFIND", 1, true, .xml, .noform, .absent, .absent, .absent⟩ = true := by decide
example : malformed ⟨.cal, "MOVE", 4, true, .none, .empty, .bad, .t, .ok⟩ = true := by decide
example : malformed ⟨.cal, "PROPFIND", 3, true, .xml, .valid, .d1, .absent, .absent⟩ = false ∧
    (serve ⟨.cal, "PROPFIND", 3, true, .xml, .valid, .d1, .absent, .absent⟩).status = 207 := by decide
example : (serve ⟨.card, "PUT", 4, false, .objparam, .objok, .absent, .absent, .absent⟩) = ⟨201, true⟩ := by decide

open GoWebdav.Std.Posix GoWebdav.Impl.Webdav GoWebdav.Spec.Rfc4918 in
theorem refusals_codes (t : FS) (r : Request) : refusals t r ⊆ [400, 403, 404, 405, 409, 412, 415, 422, 423] := by
  have hc : ∀ ex im inm, condRefusal ex im inm ⊆ [400, 403, 404, 405, 409, 412, 415, 422, 423] := by
    intro ex im inm; unfold condRefusal; split <;> decide
  unfold refusals
  cases target r.path <;> cases destTarget r <;>
    simp +decide only [List.append_subset, apply_ite (· ⊆ [400, 403, 404, 405, 409, 412, 415, 422, 423]), hc, ite_self, and_self]

open GoWebdav.Std.Posix GoWebdav.Impl.Webdav GoWebdav.Spec.Rfc4918 in
theorem refusals_4xx (t : FS) (r : Request) : ∀ c ∈ refusals t r, 400 ≤ c ∧ c < 500 :=
  fun c hc => (by decide : ∀ c ∈ [400, 403, 404, 405, 409, 412, 415, 422, 423], 400 ≤ c ∧ c < 500) c (refusals_codes t r hc)

open GoWebdav.Std.Posix GoWebdav.Impl.Webdav GoWebdav.Spec.Rfc4918 GoWebdav.Lemmas.Refine GoWebdav.Lemmas.Webdav in
/-- WebDAV file server: a request to which any refusal condition of the RFC 4918 model applies — invalid Depth,
    Overwrite, Destination, Content-Type or PROPFIND body included — is answered 4xx and leaves the tree as it was -/
theorem C13_fs_refused_4xx (t : FS) (hwf : WF t) (r : Request) (hnr : ¬ FaultRegion t r) (h : refusals t r ≠ []) :
    400 ≤ (step t r).2.status ∧ (step t r).2.status < 500 ∧ Same (step t r).1 t := by
  have ha := C01.C01_refines_partial t hwf r hnr
  unfold allows at ha
  rw [if_pos h] at ha
  have := refusals_4xx t r _ ha.1
  exact ⟨this.1, this.2, ha.2⟩

open GoWebdav.Std.Posix GoWebdav.Impl.Webdav GoWebdav.Spec.Rfc4918 in
/-- the header and body defects of the property are refusal conditions -/
theorem C13_fs_malformed_is_refused (t : FS) (r : Request)
    (h : (r.method = "COPY" ∨ r.method = "MOVE") ∧ (destTarget r = none ∨ validOverwrite r.overwrite = false ∨ validDepth r.depth = false)
       ∨ r.method = "PROPFIND" ∧ (validDepth r.depth = false ∨ bodyForm r = none ∨ bodyForm r = some .noform)
       ∨ r.method = "MKCOL" ∧ r.ctypeSet = true) : refusals t r ≠ [] := by
  rcases h with ⟨hm, hb⟩ | ⟨hm, hb⟩ | ⟨hm, hb⟩
  · exact List.ne_nil_of_mem (Lemmas.Refine.copyMove_malformed t r hm (hb.imp_right (Or.imp_right .inl)))
  · exact List.ne_nil_of_mem (Lemmas.Refine.propfind_malformed t r hm hb)
  · exact List.ne_nil_of_mem (Lemmas.Refine.mkcol_with_body t r hm hb)

end GoWebdav.Props.C13
