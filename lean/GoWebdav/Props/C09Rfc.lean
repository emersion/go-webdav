import GoWebdav.Lemmas.CarddavRead
import GoWebdav.Lemmas.CarddavAgree
import GoWebdav.Lemmas.CarddavNoise
/-!
# C09 against an independent strict reader: client → wire in RFC 6352 form, wire → backend for every document

`Spec.CarddavWire` is a strict reader of the RFC 6352 DTD (namespaces, element order, declared attributes and
enumeration values are its own literals).  For EVERY expressible query, what the client writes is accepted by that
reader and read to the request the caller expressed.  For EVERY document the reader accepts — whoever wrote it — the
server's decoder hands the backend the request it denotes (for limits below 2^63, every Go `int`); the decoder does not
see comments and white space between elements, so the same holds of every document that is conformant once those are
set aside.  No bound on the number of filters, text-matches, parameters, properties or hrefs.
-/
namespace GoWebdav.Props.C09
open GoWebdav GoWebdav.Std.Xml GoWebdav.Impl.CarddavWire GoWebdav.Spec.CarddavWire GoWebdav.Lemmas.CarddavWire
open GoWebdav.Lemmas.CarddavRead

def exceptToOption {α : Type} : Except Err α → Option α
  | .ok a => some a
  | .error _ => none

/-- the client's addressbook-query is an RFC 6352 document denoting the caller's query, with the generality of
    `C09_query_reaches_backend` and for ANY positive limit (the strict reader has no 64-bit bound) -/
theorem C09_client_query_is_rfc (q : Query) (h : Expressible q) :
    (exceptToOption (encodeQuery q)).bind readQuery = some (denotes q) := by
  -- the bind is reduced by rewriting: left to unification, the reader is unfolded on the whole document
  rw [encodeQuery_ok q h, exceptToOption, Option.bind_some]
  exact readQuery_queryNode q h

/-- on everything the client can send, the server's decoder and the strict RFC reader agree -/
theorem C09_server_agrees_with_rfc_reader (q : Query) (h : Expressible q) (hlim : q.limit < 9223372036854775808) (n : Node)
    (hn : encodeQuery q = .ok n) : decodeQuery n = .ok (readQuery n) := by
  have hr : readQuery n = some (denotes q) := by
    have := C09_client_query_is_rfc q h
    rwa [hn, exceptToOption, Option.bind_some] at this
  rw [hr]
  exact Lemmas.CarddavAgree.decodeQuery_of_read n _ hr (by simp only [denotes]; split <;> omega)

/-- addressbook-multiget: the property request first, then the hrefs in order (the request path when none is given),
    read by the strict reader to the caller's request; the hypothesis is the href round trip of the paths sent (C16) -/
theorem C09_client_multiget_is_rfc (reqPath : String) (escape : String → String) (unescape : String → Option String) (m : MultiGet)
    (hesc : ∀ p ∈ (if m.paths.isEmpty then [reqPath] else m.paths), unescape (escape p) = some p) :
    readMultiGet unescape (encodeMultiGet reqPath escape m) =
      some ⟨m.allProp, if m.allProp then [] else m.props, if m.paths.isEmpty then [reqPath] else m.paths⟩ :=
  readMultiGet_enc reqPath escape unescape m hesc

/-- addressbook-query, whichever of the DTD's options the document uses: DAV:allprop / DAV:propname / DAV:prop or none,
    explicit default attributes, collation, content-type / version on address-data, novalue on prop -/
theorem C09_rfc_document_reaches_backend (n : Node) (q : Query) (h : readQuery n = some q)
    (hlim : q.limit < 9223372036854775808) : decodeQuery n = .ok (some q) :=
  GoWebdav.Lemmas.CarddavAgree.decodeQuery_of_read n q h hlim

/-- addressbook-multiget: the hrefs in document order -/
theorem C09_rfc_multiget_reaches_backend (unescape : String → Option String) (n : Node) (m : MultiGet)
    (h : readMultiGet unescape n = some m) : decodeMultiGet unescape n = .ok m :=
  GoWebdav.Lemmas.CarddavAgree.decodeMultiGet_of_read unescape n m h

/-- a conformant document the library's own client never writes (DAV:propname first, explicit default attributes, a
    collation, versioned address-data with novalue) meets the hypothesis -/
def foreignDoc : Node :=
  el "addressbook-query" []
    [dav "propname" [],
     el "filter" [att "test" "anyof"]
       [el "prop-filter" [att "name" "EMAIL", att "test" "allof"]
          [el "text-match" [att "collation" "i;unicode-casemap", att "negate-condition" "no", att "match-type" "contains"] [.text " x "],
           el "param-filter" [att "name" "TYPE"] [el "text-match" [att "match-type" "equals"] [.text "home"]]]],
     el "limit" [] [el "nresults" [] [.text "25"]]]

example : readQuery foreignDoc = some ⟨false, [], "anyof", [⟨"EMAIL", "allof", false, [⟨" x ", false, "contains"⟩],
    [⟨"TYPE", false, some ⟨"home", false, "equals"⟩⟩]⟩], 25⟩ := by decide +kernel
example : decodeQuery foreignDoc = .ok (some ⟨false, [], "anyof", [⟨"EMAIL", "allof", false, [⟨" x ", false, "contains"⟩],
    [⟨"TYPE", false, some ⟨"home", false, "equals"⟩⟩]⟩], 25⟩) := by decide +kernel

/-- insignificant content: comments, and white space between the elements of an element-content model, anywhere in ANY
    document; the character data of text-match, nresults and href is left alone: there white space is data -/
theorem C09_decoder_ignores_insignificant_content (n : Node) :
    decodeQuery (Spec.XmlNoise.clean Lemmas.CarddavNoise.pc n) = decodeQuery n :=
  Lemmas.CarddavNoise.decodeQuery_clean n

/-- the same for multiget documents -/
theorem C09_multiget_decoder_ignores_insignificant_content (unescape : String → Option String) (n : Node) :
    decodeMultiGet unescape (Spec.XmlNoise.clean Lemmas.CarddavNoise.pc n) = decodeMultiGet unescape n :=
  Lemmas.CarddavNoise.decodeMultiGet_clean unescape n

/-- …hence `C09_rfc_document_reaches_backend` for every document that is conformant once that content is set aside
    (pretty-printed, commented) -/
theorem C09_rfc_document_reaches_backend_lexical (n : Node) (q : Query)
    (h : readQuery (Spec.XmlNoise.clean Lemmas.CarddavNoise.pc n) = some q) (hlim : q.limit < 9223372036854775808) :
    decodeQuery n = .ok (some q) := by
  rw [← C09_decoder_ignores_insignificant_content n]
  exact C09_rfc_document_reaches_backend _ q h hlim

/-- a pretty-printed, commented spelling of a query whose text-match text is white space only: the indentation goes,
    the match text stays -/
def prettyDoc : Node :=
  el "addressbook-query" []
    [.text "\n  ", .comment "which properties", dav "prop" [.text "\n    ", el "address-data" [] [.text " ", el "allprop" [] [], .text " "], .text "\n  "],
     .text "\n  ", el "filter" []
       [.text "\n    ", el "prop-filter" [att "name" "NOTE"] [.text "\n      ", el "text-match" [att "match-type" "equals"] [.text "  "], .text "\n    "],
        .text "\n  "],
     .text "\n"]

example : readQuery (Spec.XmlNoise.clean Lemmas.CarddavNoise.pc prettyDoc) =
    some ⟨true, [], "", [⟨"NOTE", "", false, [⟨"  ", false, "equals"⟩], []⟩], 0⟩ := by decide +kernel
example : readQuery prettyDoc = none := by decide +kernel

/-- the strict reader is strict: the same query with the limit in the DAV: namespace, a filter before the property
    request, an undeclared attribute, an enumeration value outside the DTD, or a param-filter before a text-match is
    refused -/
example : readQuery (el "addressbook-query" [] [encPropReq true [], el "filter" [] [], .elem ⟨"DAV:", "limit"⟩ [] [el "nresults" [] [.text "7"]]]) = none := by decide +kernel
example : readQuery (el "addressbook-query" [] [el "filter" [] [], encPropReq true []]) = none := by decide +kernel
example : readQuery (el "addressbook-query" [] [encPropReq true [], el "filter" [att "mode" "x"] []]) = none := by decide +kernel
example : readQuery (el "addressbook-query" [] [encPropReq true [], el "filter" [att "test" "oneof"] []]) = none := by decide +kernel
example : readQuery (el "addressbook-query" [] [encPropReq true [], el "filter" [] [el "prop-filter" [att "name" "FN"] [paramNode ⟨"TYPE", false, none⟩, encTextMatch ⟨"x", false, ""⟩]]]) = none := by decide +kernel
/-- …and reads the witness query of `Props/C09.lean` -/
example : (exceptToOption (encodeQuery exQuery)).bind readQuery = some (denotes exQuery) := by decide +kernel

end GoWebdav.Props.C09
