import GoWebdav.Lemmas.Webdav
/-!
# C17 — Responses never disclose where the served directory lives on the host

In the model an `os` error carries the host paths Go puts into `*fs.PathError` / `*os.LinkError`; the response text is
built from it by `stripPaths` (`errFromOS`, `errFromOSDest`, `Mkdir`).  The theorem says no response of the model
carries a `host` item; the harness scans every real response (headers and body) for the served directory's
absolute path, which is what ties the claim to the Go code.
-/
namespace GoWebdav.Props.C17
open GoWebdav GoWebdav.Std.Posix GoWebdav.Impl.Webdav GoWebdav.Lemmas.Webdav

/-- whatever the OS error type and whichever paths it names, the stripped text names none -/
theorem C17_stripPaths_no_host (e : OsErr) : (stripPaths e).mentionsHost = false := by
  cases e <;> rfl

theorem err_clean (c : Nat) (m : Msg) (h : m.mentionsHost = false) : (err c m).msg.mentionsHost = false := h

/- Each handler leaves by one of finitely many exits; the text of each is a literal or a stripped `os` error. -/

theorem optionsResp_clean (t : FS) (r : Request) : (optionsResp t r).msg.mentionsHost = false := by
  fun_cases optionsResp t r <;> rfl
theorem headGetResp_clean (t : FS) (r : Request) : (headGetResp t r).msg.mentionsHost = false := by
  fun_cases headGetResp t r <;> rfl
theorem proppatchResp_clean (t : FS) (r : Request) : (proppatchResp t r).msg.mentionsHost = false := by
  fun_cases proppatchResp t r <;> rfl
theorem propfindResp_clean (t : FS) (r : Request) : (propfindResp t r).msg.mentionsHost = false := by
  fun_cases propfindResp t r <;> rfl
theorem put_clean (t : FS) (r : Request) : (put t r).2.msg.mentionsHost = false := by
  fun_cases put t r <;> rfl
theorem delete_clean (t : FS) (r : Request) : (delete t r).2.msg.mentionsHost = false := by
  fun_cases delete t r <;> rfl
theorem mkcol_clean (t : FS) (r : Request) : (mkcol t r).2.msg.mentionsHost = false := by
  fun_cases mkcol t r <;> rfl
theorem copyMove_clean (t : FS) (m : Bool) (s d : Bytes) (rec ow : Bool) :
    (copyMove t m s d rec ow).2.msg.mentionsHost = false := by
  fun_cases copyMove t m s d rec ow with
  -- the one exit whose text is not a literal: `errFromOSDest` of the failed first step's error
  | case6 => exact err_clean _ _ (C17_stripPaths_no_host _)
  | _ => rfl
theorem copyMoveHandler_clean (t : FS) (r : Request) : (copyMoveHandler t r).2.msg.mentionsHost = false := by
  rcases copyMoveHandler_cases r with ⟨_, _, h⟩ | ⟨_, _, _, _, _, _, h⟩ <;> rw [h]
  · rfl
  · exact copyMove_clean ..

/-- no response of the file server — successful or failed, any method, any tree, any request — contains the host
    path of the served directory or of anything beneath it -/
theorem C17_no_host_path (t : FS) (r : Request) : (step t r).2.msg.mentionsHost = false := by
  obtain ⟨_, h, he⟩ := step_handler r
  rw [he]
  cases h with
  | options => exact optionsResp_clean t r
  | headGet => exact headGetResp_clean t r
  | put => exact put_clean t r
  | delete => exact delete_clean t r
  | propfind => exact propfindResp_clean t r
  | proppatch => exact proppatchResp_clean t r
  | mkcol => exact mkcol_clean t r
  | copyMove => exact copyMoveHandler_clean t r
  | other => rfl

-- non-vacuity: the errors that leaked before the fix (MKCOL on an existing resource, a failed rename)
example : (step [([[97]], .dir), ([], .dir)] { method := "MKCOL", path := [47, 97] }).2 =
    { status := 405, msg := .opErrno "mkdir" "file exists" } := by decide
example : stripPaths (.linkErr "rename" [[97]] [[98], [99]] "no such file or directory") = .opErrno "rename" "no such file or directory" := rfl

end GoWebdav.Props.C17
