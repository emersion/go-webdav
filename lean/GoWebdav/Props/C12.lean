import GoWebdav.Impl.Path
import GoWebdav.Lemmas.Path
/-!
# C12 — CalDAV/CardDAV routing and discovery work under any mount prefix (classification part)

`resourceTypeAtPath` is the single function both servers use to classify a request path; it is stated here for
EVERY prefix (any number of arbitrary normal segments) and every path below it, with and without trailing slash;
the classification only looks at the cleaned segments, so it is the same for every other spelling of such a path
(`//`, `/./`, `x/..`).
-/
namespace GoWebdav.Props.C12
open GoWebdav GoWebdav.Std.Path GoWebdav.Impl.Path GoWebdav.Lemmas.Path

/-- every spelling of a rooted request path is classified by its cleaned segments: by how many of them lie below the
    prefix -/
theorem resourceTypeAtPath_of_rootedSegs (pre below : List Seg) (p : Bytes) (habs : isAbs p = true)
    (h : rootedSegs p = pre ++ below) : resourceTypeAtPath (renderSegs pre) p = below.length := by
  have hb : ∀ s ∈ below, Normal s := fun s hs => rootedSegs_normal p s (h ▸ List.mem_append_right _ hs)
  unfold resourceTypeAtPath
  rw [clean_of_isAbs p habs, h]
  by_cases hall : pre ++ below = []
  · -- the request path is "/"
    obtain ⟨rfl, rfl⟩ := List.append_eq_nil_iff.mp hall
    decide
  · rw [if_neg hall, render_append, trimPrefix_append]
    cases below with
    | nil =>
      -- the request path is the prefix itself: nothing is left after trimming, "/" is put in front
      simp [renderSegs, isAbs]
    | cons b bs =>
      have hne1 : renderSegs (b :: bs) ≠ [slash] := by
        cases b with
        | nil => exact absurd rfl (hb [] (by simp)).1
        | cons c cs => simp [renderSegs]
      have habs' : isAbs (renderSegs (b :: bs)) = true := rfl
      simp only [habs', if_true, if_neg hne1, splitSlash_renderSegs _ (fun s hs => (hb s hs).2.2.2) (List.cons_ne_nil b bs)]
      rfl

/-- a request path below the prefix is classified solely by its depth below the prefix (`hne`: the empty string is not a
    request path) -/
theorem C12_depth_classification (pre below : List Seg) (hp : ∀ s ∈ pre, Normal s) (hb : ∀ s ∈ below, Normal s)
    (trailing : Bool) (hne : pre ++ below ≠ [] ∨ trailing = true) :
    resourceTypeAtPath (renderSegs pre) (renderSegs (pre ++ below) ++ (if trailing then [slash] else [])) = below.length := by
  have hnorm : ∀ s ∈ pre ++ below, Normal s := fun s hs => (List.mem_append.mp hs).elim (hp s) (hb s)
  by_cases hall : pre ++ below = []
  · obtain rfl : trailing = true := hne.resolve_left (fun h => h hall)
    exact resourceTypeAtPath_of_rootedSegs pre below _ (by rw [hall]; rfl) (by rw [hall]; rfl)
  · exact resourceTypeAtPath_of_rootedSegs pre below _ (isAbs_render _ hall _) (rootedSegs_render _ hnorm hall trailing)

/-- the four levels below the root (principal, home set, collection, object) are depths 1…4; the root, depth 0, is
    `C12_depth_classification` with `below = []` -/
theorem C12_levels (pre : List Seg) (hp : ∀ s ∈ pre, Normal s) (a b c d : Seg)
    (ha : Normal a) (hb : Normal b) (hc : Normal c) (hd : Normal d) (trailing : Bool) :
    resourceTypeAtPath (renderSegs pre) (renderSegs (pre ++ [a]) ++ (if trailing then [slash] else [])) = 1 ∧
    resourceTypeAtPath (renderSegs pre) (renderSegs (pre ++ [a, b]) ++ (if trailing then [slash] else [])) = 2 ∧
    resourceTypeAtPath (renderSegs pre) (renderSegs (pre ++ [a, b, c]) ++ (if trailing then [slash] else [])) = 3 ∧
    resourceTypeAtPath (renderSegs pre) (renderSegs (pre ++ [a, b, c, d]) ++ (if trailing then [slash] else [])) = 4 := by
  refine ⟨?_, ?_, ?_, ?_⟩
  · exact C12_depth_classification pre [a] hp (by simp [ha]) trailing (Or.inl (by simp))
  · exact C12_depth_classification pre [a, b] hp (by simp [ha, hb]) trailing (Or.inl (by simp))
  · exact C12_depth_classification pre [a, b, c] hp (by simp [ha, hb, hc]) trailing (Or.inl (by simp))
  · exact C12_depth_classification pre [a, b, c, d] hp (by simp [ha, hb, hc, hd]) trailing (Or.inl (by simp))

-- non-vacuity: prefix /dav/x, path /dav/x/u/cal/
example : Normal [100, 97, 118] ∧ resourceTypeAtPath (renderSegs [[100, 97, 118], [120]])
    (renderSegs [[100, 97, 118], [120], [117], [99, 97, 108]] ++ [slash]) = 2 := by
  refine ⟨by decide, by decide⟩

end GoWebdav.Props.C12
