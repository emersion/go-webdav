import GoWebdav.Lemmas.RawXml
/-!
# C15 — Raw XML values preserve the element tree they captured

`Impl.RawXml` mirrors internal/xml.go.  Trees are namespace-resolved (what `xml.Decoder.Token` delivers); byte-level
lexing and prefix choice are below the model and are covered by the correspondence (documents with default and
prefixed namespaces, redeclaration, undeclaration, re-read with encoding/xml and compared as expanded trees).
-/
namespace GoWebdav.Props.C15
open GoWebdav.Impl.RawXml GoWebdav.Lemmas.RawXml

/-- a captured element written out again denotes the same tree (any depth, any fan-out), and capturing consumes
    exactly the element's own tokens -/
theorem C15_capture_replay (t : Tag) (cs : List Raw) (rest : List Tok) :
    parseElem (flatten (.elem t cs) ++ rest) = some (.elem t cs, rest) := parse_flatten t cs rest

/-- the token reader of a raw value produces exactly the value's token stream and then EOF — it is finite:
    `length + 1` calls of `Token()` suffice -/
theorem C15_reader_refines (v : Raw) : drain ((flatten v).length + 1) (fresh v) = flatten v := by
  have hc : Consistent (fresh v) := by simp [fresh, Consistent]
  rw [drain_spec (fresh v) hc _ (by rw [remaining_fresh]; omega), remaining_fresh]

/-- the token stream of a raw value is balanced and well nested -/
theorem C15_balanced (v : Raw) : balanced [] (flatten v) = true := by
  have := balanced_flatten v [] []
  simpa [balanced] using this

/-- decoding from a captured raw value sees the same tokens as decoding the original document: any decoder that is a
    function of the token stream yields the same typed value either way -/
theorem C15_decode_commutes {α} (decodeTyped : List Tok → α) (t : Tag) (cs : List Raw) (capture : Raw)
    (h : parseElem (flatten (.elem t cs)) = some (capture, [])) :
    decodeTyped (drain ((flatten capture).length + 1) (fresh capture)) = decodeTyped (flatten (.elem t cs)) := by
  have := C15_capture_replay t cs []
  simp only [List.append_nil] at this
  rw [this] at h
  cases h
  rw [C15_reader_refines]

def exRaw : Raw :=
  .elem ⟨"DAV:", "prop", [("", "a", "1")]⟩ [.leaf ⟨0, " "⟩, .elem ⟨"urn:x", "y", []⟩ [.leaf ⟨1, "c"⟩, .elem ⟨"", "z", []⟩ []], .leaf ⟨0, "t"⟩]
example : (parseElem (flatten exRaw)).map (fun x => (flatten x.1, x.2)) = some (flatten exRaw, []) := by decide
example : drain 20 (fresh exRaw) = flatten exRaw := by decide

end GoWebdav.Props.C15
