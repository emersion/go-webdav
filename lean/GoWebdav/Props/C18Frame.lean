import GoWebdav.Lemmas.Outcome
/-!
# C18, frame part — a request touches only the subtrees it addresses

Over the file-server model (`Impl.Webdav.step`, tied by family `fsreq`): whatever the tree and the request, every path
that lies neither below the request's target nor (for COPY and MOVE) below its destination holds after the request
exactly what it held before.  The handler keeps no state of its own (regenerated facts, `C18_no_shared_state_written`
and `C18_service_values_keep_no_state` in Props/C18.lean: no package-level write, no field written after
construction), so the tree is the only thing requests share; together with this frame property, requests addressed to
disjoint subtrees cannot influence each other's stored data — the logic half of "concurrent requests that touch
disjoint resources each produce the result they produce alone".  The other half (no data race inside Go's runtime
objects) is the race-detector run of family `concur`.
-/
namespace GoWebdav.Props.C18
open GoWebdav GoWebdav.Std.Path GoWebdav.Std.Posix GoWebdav.Impl.Path GoWebdav.Impl.Webdav GoWebdav.Lemmas.Webdav

def footprint (r : Request) (q : FPath) : Bool :=
  (match localPath [] r.path with
   | .ok p => p.isPrefixOf q
   | .error _ => false) ||
  (match r.dest with
   | .path d => (match localPath [] d with | .ok dp => dp.isPrefixOf q | .error _ => false)
   | _ => false)

theorem off_target {r : Request} {q p : FPath} (h : footprint r q = false) (hp : localPath [] r.path = .ok p) :
    p.isPrefixOf q = false := by
  unfold footprint at h; simp only [hp, Bool.or_eq_false_iff] at h; exact h.1

theorem off_dest {r : Request} {q dst : FPath} {d : Bytes} (h : footprint r q = false) (hd : r.dest = .path d)
    (hdst : localPath [] d = .ok dst) : dst.isPrefixOf q = false := by
  unfold footprint at h; simp only [hd, hdst, Bool.or_eq_false_iff] at h; exact h.2

theorem lookup_freed_off {t t1 : FS} {dst : FPath} (h : t1 = t ∨ t1 = removeAll t dst) (q : FPath)
    (hq : dst.isPrefixOf q = false) : lookup t1 q = lookup t q := by
  rcases h with rfl | rfl
  · rfl
  · exact lookup_removeAll_off t dst q hq

theorem outcome_frame {t : FS} {r : Request} {out : FS × Response} (ho : Outcome t r out) (q : FPath)
    (h : footprint r q = false) : lookup out.1 q = lookup t q := by
  cases ho with
  | kept => rfl
  | written p _ _ hp => exact lookup_set_off t p q _ (off_target h hp)
  | putFault p _ _ _ hp => exact lookup_removeAll_off t p q (off_target h hp)
  | deleted p _ hp => exact lookup_removeAll_off t p q (off_target h hp)
  | collection p _ hp => exact lookup_set_off t p q _ (off_target h hp)
  | noParent _ _ _ _ hd hdst hfrom => exact lookup_freed_off hfrom q (off_dest h hd hdst)
  | transferred src _ dst t1 _ _ hsrc hd hdst hfrom _ _ ht2 =>
    have hq := off_dest h hd hdst
    have h1 := lookup_freed_off hfrom q hq
    rcases ht2 with rfl | rfl | rfl
    · rw [lookup_removeAll_off _ src q (off_target h hsrc), lookup_graft_off t1 src dst q hq, h1]
    · rw [lookup_graft_off t1 src dst q hq, h1]
    · rw [lookup_set_off t1 dst q _ hq, h1]

/-- every request leaves every path outside its footprint exactly as it was — for every tree and every request -/
theorem C18_frame (t : FS) (r : Request) (q : FPath) (h : footprint r q = false) :
    lookup (step t r).1 q = lookup t q := outcome_frame (step_outcome t r) q h

/-- lifted to histories: a sequence of requests none of which has `q` in its footprint leaves `q` as it was -/
theorem C18_frame_history (t : FS) (rs : List Request) (q : FPath) (h : ∀ r ∈ rs, footprint r q = false) :
    lookup (run t rs).1 q = lookup t q := by
  induction rs generalizing t with
  | nil => rfl
  | cons r rs ih =>
    unfold run
    exact (ih (step t r).1 (fun r' hr' => h r' (List.mem_cons_of_mem _ hr'))).trans (C18_frame t r q (h r List.mem_cons_self))

-- non-vacuity: a PUT to /a/x does not have /b in its footprint
example : footprint { method := "PUT", path := [47, 97, 47, 120] } [[98]] = false := by decide

end GoWebdav.Props.C18
