import GoWebdav.Impl.Cond
import GoWebdav.Spec.Cond
import GoWebdav.Lemmas.Quote
/-!
# C04 — If-Match / If-None-Match preconditions are honoured exactly

Resource state: `none` (absent) or `some e` with `e ≠ []` (every existing resource of the file server has a
non-empty entity tag: the hex of mtime and size).  `check` is shown equal to the header-by-header table of
`Spec.Cond` once; the characterisations of the three verdicts (carried out, 400, 412) are read off the table.
-/
namespace GoWebdav.Props.C04
open GoWebdav GoWebdav.Std GoWebdav.Impl.Codec GoWebdav.Impl.Cond

variable (utf8 : Char → List UInt8)

/-- the public helper: MatchETag is true exactly for `*` or an equal tag, against an existing resource -/
theorem C04_matchETag_public (v : List Char) (e : Bytes) :
    matchETag utf8 v e = some true ↔ e ≠ [] ∧ (v = ['*'] ∨ etagOf utf8 v = some e) := by
  unfold matchETag isWildcard
  by_cases he : e = []
  · simp [he]
  · by_cases hw : v = ['*']
    · simp [he, hw]
    · cases hd : etagOf utf8 v with
      | none => simp [he, hw]
      | some t => simp [he, hw]

/-- MatchETag fails (→ 400) exactly when a tag has to be compared and the header is not a quoted string -/
theorem C04_matchETag_error (v : List Char) (e : Bytes) :
    matchETag utf8 v e = none ↔ e ≠ [] ∧ v ≠ ['*'] ∧ etagOf utf8 v = none := by
  unfold matchETag isWildcard
  by_cases he : e = []
  · simp [he]
  · by_cases hw : v = ['*']
    · simp [he, hw]
    · cases hd : etagOf utf8 v <;> simp [he, hw]

def IfMatchHolds (st : Option Bytes) (v : List Char) : Prop :=
  ∃ e, st = some e ∧ (v = ['*'] ∨ etagOf utf8 v = some e)
def IfNoneMatchHolds (st : Option Bytes) (v : List Char) : Prop :=
  st = none ∨ ∃ e t, st = some e ∧ v ≠ ['*'] ∧ etagOf utf8 v = some t ∧ t ≠ e
/-- a consulted header that is not a quoted string (only consulted when there is a resource to compare with) -/
def Malformed (st : Option Bytes) (v : List Char) : Prop :=
  v ≠ [] ∧ st ≠ none ∧ v ≠ ['*'] ∧ etagOf utf8 v = none

def WFState (st : Option Bytes) : Prop := ∀ e, st = some e → e ≠ []

section
open Spec.Cond

theorem matchETag_eq_table (v : List Char) {e : Bytes} (he : e ≠ []) :
    matchETag utf8 v e = (match ifMatch utf8 (some e) v with
      | .holds => some true | .fails => some false | .malformed => none) ∧
    matchETag utf8 v e = (match ifNoneMatch utf8 (some e) v with
      | .holds => some false | .fails => some true | .malformed => none) := by
  unfold matchETag isWildcard ifMatch ifNoneMatch
  by_cases hw : v = ['*']
  · simp [he, hw]
  · cases etagOf utf8 v with
    | none => simp [he, hw]
    | some t => by_cases hte : t = e <;> simp [he, hw, hte]

/-- the implementation is the header-by-header table of the specification -/
theorem C04_check_eq_spec (st : Option Bytes) (hwf : WFState st) (im inm : List Char) :
    check utf8 st im inm = Spec.Cond.verdict utf8 st im inm := by
  unfold check verdict isSet
  cases st with
  | none =>
    by_cases h1 : im = [] <;> by_cases h2 : inm = [] <;> simp [h1, h2, matchETag, ifMatch, ifNoneMatch, ofHeader]
  | some e =>
    have he : e ≠ [] := hwf e rfl
    simp only [(matchETag_eq_table utf8 im he).1, (matchETag_eq_table utf8 inm he).2]
    -- both sides are now tables over: header set or not, and the verdict on each header that is set
    by_cases h1 : im = [] <;> by_cases h2 : inm = [] <;>
      simp only [h1, h2, ne_eq, not_true_eq_false, not_false_eq_true, decide_true, decide_false, if_true, if_false,
        Bool.false_eq_true]
    · cases ifNoneMatch utf8 (some e) inm <;> rfl
    · cases ifMatch utf8 (some e) im <;> rfl
    · cases ifMatch utf8 (some e) im <;> cases ifNoneMatch utf8 (some e) inm <;> rfl

/-- the predicates of the property are rows of the table, an unset header counting as one that holds -/
theorem table_rows (st : Option Bytes) (v : List Char) :
    ((if v = [] then .holds else ifMatch utf8 st v) = .holds ↔ v = [] ∨ IfMatchHolds utf8 st v) ∧
    ((if v = [] then .holds else ifNoneMatch utf8 st v) = .holds ↔ v = [] ∨ IfNoneMatchHolds utf8 st v) ∧
    ((if v = [] then .holds else ifMatch utf8 st v) = .malformed ↔ Malformed utf8 st v) ∧
    ((if v = [] then .holds else ifNoneMatch utf8 st v) = .malformed ↔ Malformed utf8 st v) := by
  by_cases hv : v = []
  · simp [hv, Malformed]
  · simp only [hv, if_false, false_or, ne_eq, not_false_eq_true, true_and, Malformed]
    unfold ifMatch ifNoneMatch IfMatchHolds IfNoneMatchHolds
    cases st with
    | none => simp
    | some e =>
      by_cases hw : v = ['*']
      · simp [hw]
      · cases etagOf utf8 v with
        | none => simp [hw]
        | some t => by_cases hte : t = e <;> simp [hw, hte]

/-- the first header that does not hold decides -/
def inSequence : HeaderVerdict → HeaderVerdict → Verdict
  | .holds, b => ofHeader b
  | a, _ => ofHeader a

theorem inSequence_proceed_iff (a b : HeaderVerdict) : inSequence a b = .proceed ↔ a = .holds ∧ b = .holds := by
  cases a <;> cases b <;> decide

theorem inSequence_badRequest_iff (a b : HeaderVerdict) :
    inSequence a b = .badRequest ↔ a = .malformed ∨ a = .holds ∧ b = .malformed := by
  cases a <;> cases b <;> decide

theorem verdict_eq (st : Option Bytes) (im inm : List Char) :
    verdict utf8 st im inm =
      inSequence (if im = [] then .holds else ifMatch utf8 st im) (if inm = [] then .holds else ifNoneMatch utf8 st inm) := by
  unfold verdict
  generalize (if im = [] then HeaderVerdict.holds else ifMatch utf8 st im) = a
  by_cases h2 : inm = [] <;> simp only [h2, if_true, if_false] <;> cases a <;> rfl

end

/-- the request is carried out iff both preconditions (when set) hold -/
theorem C04_carried_out_iff (st : Option Bytes) (hwf : WFState st) (im inm : List Char) :
    check utf8 st im inm = .proceed ↔
      (im = [] ∨ IfMatchHolds utf8 st im) ∧ (inm = [] ∨ IfNoneMatchHolds utf8 st inm) := by
  rw [C04_check_eq_spec utf8 st hwf, verdict_eq, inSequence_proceed_iff, (table_rows utf8 st im).1,
    (table_rows utf8 st inm).2.1]

/-- 400 exactly when the first consulted header that decides is malformed: If-Match malformed, or If-Match
    satisfied/unset and If-None-Match malformed -/
theorem C04_400_iff (st : Option Bytes) (hwf : WFState st) (im inm : List Char) :
    check utf8 st im inm = .badRequest ↔
      Malformed utf8 st im ∨ ((im = [] ∨ IfMatchHolds utf8 st im) ∧ Malformed utf8 st inm) := by
  rw [C04_check_eq_spec utf8 st hwf, verdict_eq, inSequence_badRequest_iff, (table_rows utf8 st im).1,
    (table_rows utf8 st im).2.2.1, (table_rows utf8 st inm).2.2.2]

/-- everything else is 412: the three verdicts partition -/
theorem C04_412_iff (st : Option Bytes) (im inm : List Char) :
    check utf8 st im inm = .preconditionFailed ↔
      check utf8 st im inm ≠ .proceed ∧ check utf8 st im inm ≠ .badRequest := by
  cases check utf8 st im inm <;> simp

/-- a tag announced by the server (`%q` of the resource's tag) is read back to the bytes of the resource's tag, which
    is what the table compares (so that If-Match with it holds and If-None-Match with it does not).  `utf8` must encode
    ASCII characters as themselves. -/
theorem C04_announced_tag_accepted (isPrint : Char → Bool) (hp : isPrint '\n' = false)
    (hutf : ∀ c : Char, c.toNat < 128 → utf8 c = [UInt8.ofNat c.toNat])
    (tag : List Quote.GoRune) (bytesOf : Quote.GoRune → Bytes)
    (hb : ∀ r, bytesOf r = match r with | .valid c => utf8 c | .bad b => [b]) :
    etagOf utf8 (etagEncode isPrint tag) = some (tag.flatMap bytesOf) := by
  unfold etagOf etagDecode etagEncode
  rw [Lemmas.Quote.unquote_quote isPrint hp tag, Option.map_some, outBytes, List.flatMap_map]
  -- rune by rune: what comes back from unquoting encodes to the bytes the rune stood for
  congr 2
  funext r
  rw [hb r]
  cases r with
  | bad b => rfl
  | valid c =>
    rcases Lemmas.Quote.expect_valid isPrint c with h | ⟨hlt, h⟩
    · rw [h]
    · rw [h]; exact (hutf c hlt).symm

example : WFState (some [101]) ∧ check (fun c => [UInt8.ofNat c.toNat]) (some [101]) ['"', 'e', '"'] [] = .proceed := by
  refine ⟨?_, by decide⟩
  intro e h; cases h; simp
example : check (fun c => [UInt8.ofNat c.toNat]) (some [101]) [] ['*'] = .preconditionFailed := by decide
example : check (fun c => [UInt8.ofNat c.toNat]) (some [101]) ['e'] [] = .badRequest := by decide
example : check (fun c => [UInt8.ofNat c.toNat]) none ['e'] ['x'] = .preconditionFailed := by decide

end GoWebdav.Props.C04
