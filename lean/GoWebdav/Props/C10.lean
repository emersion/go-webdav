import GoWebdav.Lemmas.ObjectWire
/-!
# C10 — Calendars, address books and their objects reach the client unchanged

Model `Impl.ObjectWire` (property level).  For EVERY value — arbitrary strings for paths, names, descriptions and
entity tags, any instant, any size, any object content — what the client rebuilds from what the server exposes is the
backend's value, up to the three conventions spelled out in `seen` (a size that is not positive means "no limit" and
arrives as 0; an unset component set arrives as the server's default VEVENT; an unset ContentLength arrives as 0).
The `_at` forms take as hypotheses the round trips of THIS value's path, tag, time, sizes and data only: C16 proves
those of href, tag, HTTP date and decimal on their domains, `Props/C10Std.lean` discharges the last two for calendars,
objects and (C05) file info, the iCalendar / vCard one is go-ical's / go-vcard's.  The other forms hold of every codec
family that round-trips every string, instant and integer (`Codecs.OK`), which the library's date codec itself does
not: year 10000.

A multiget answers each requested href exactly once and in request order.  A PUT hands the backend's path, entity tag
and modification time back to the caller.

Element names, namespaces and lexical forms of the multi-status documents are below this model: family `objwire` runs
the real client against the real server over generated values, reads the servers' raw multi-status documents with an
independent parser, and feeds the client documents from the independent writer.
-/
namespace GoWebdav.Props.C10
open GoWebdav.Impl.ObjectWire GoWebdav.Lemmas.ObjectWire

variable {D : Type}

theorem get_cons_ne (h : String) (x : String × PV) (rest : List (String × PV)) (name : String) (hne : x.1 ≠ name) :
    (⟨h, x :: rest⟩ : WResp).get name = (⟨h, rest⟩ : WResp).get name := by
  rw [get_cons, if_neg hne]

/-- discovery: every calendar arrives as the backend holds it -/
theorem C10_calendar_at (k : Codecs D) (c : Calendar)
    (hh : k.unescHref (k.escHref c.path) = some c.path)
    (hi : c.maxResourceSize > 0 → k.parseInt (k.fmtInt c.maxResourceSize) = some c.maxResourceSize) :
    calendarOf k (calendarResp k c) = .ok (some c.seen) := by
  obtain ⟨path, name, desc, size, comps⟩ := c
  simp only at hh hi
  simp [calendarOf, calendarResp, Calendar.seen, optText, sizeOf?, hh]
  -- `omega` is for the sent size: it is positive, so the client's refusal of a negative size cannot fire
  by_cases hn : name = "" <;> by_cases hs : size > 0 <;> simp [hn, hs, hi] <;> omega

theorem C10_calendar (k : Codecs D) (hk : k.OK) (c : Calendar) : calendarOf k (calendarResp k c) = .ok (some c.seen) :=
  C10_calendar_at k c (hk.href _) (fun _ => hk.int _)

/-- discovery: every address book arrives as the backend holds it -/
theorem C10_addressBook_at (k : Codecs D) (b : AddressBook)
    (hh : k.unescHref (k.escHref b.path) = some b.path)
    (hi : b.maxResourceSize > 0 → k.parseInt (k.fmtInt b.maxResourceSize) = some b.maxResourceSize) :
    bookOf k (bookResp k b) = .ok (some b.seen) := by
  obtain ⟨path, name, desc, size⟩ := b
  simp only at hh hi
  simp [bookOf, bookResp, AddressBook.seen, optText, sizeOf?, hh]
  by_cases hn : name = "" <;> by_cases hd : desc = "" <;> by_cases hs : size > 0 <;> simp [hn, hd, hs, hi] <;> omega

theorem C10_addressBook (k : Codecs D) (hk : k.OK) (b : AddressBook) : bookOf k (bookResp k b) = .ok (some b.seen) :=
  C10_addressBook_at k b (hk.href _) (fun _ => hk.int _)

/-- Query / MultiGet / Sync: every object arrives with its path, modification time, entity tag and content -/
theorem C10_object_at (k : Codecs D) (dataName : String)
    (hd : dataName ≠ "getcontentlength" ∧ dataName ≠ "getlastmodified" ∧ dataName ≠ "getetag") (o : Obj D)
    (hh : k.unescHref (k.escHref o.path) = some o.path)
    (ht : k.unquoteTag (k.quoteTag o.etag) = some o.etag)
    (hm : ∀ t, o.modTime = some t → k.parseDate (k.fmtDate t) = some t)
    (hdat : k.decData (k.encData o.data) = some o.data) :
    objOf k dataName (objResp k dataName o) = .ok o.seenInReport := by
  obtain ⟨path, mod, len, etag, data⟩ := o
  simp only at hh ht hm hdat
  cases mod <;> by_cases he : etag = "" <;>
    simp [objOf, objResp, Obj.seenInReport, sizeOf?, hh, hdat, ht, hm, he, hd]

theorem C10_object (k : Codecs D) (hk : k.OK) (dataName : String)
    (hd : dataName ≠ "getcontentlength" ∧ dataName ≠ "getlastmodified" ∧ dataName ≠ "getetag") (o : Obj D) :
    objOf k dataName (objResp k dataName o) = .ok o.seenInReport :=
  C10_object_at k dataName hd o (hk.href _) (hk.tag _) (fun _ _ => hk.date _) (hk.data _)

/-- GET: the headers carry entity tag, size and modification time back; the path is the one asked for -/
theorem C10_get_at (k : Codecs D) (o : Obj D)
    (ht : k.unquoteTag (k.quoteTag o.etag) = some o.etag)
    (hm : ∀ t, o.modTime = some t → k.parseDate (k.fmtDate t) = some t)
    (hi : o.contentLength > 0 → k.parseInt (k.fmtInt o.contentLength) = some o.contentLength) :
    populate k o.path o.data (getHeaders k o) = .ok o.seen := by
  obtain ⟨path, mod, len, etag, data⟩ := o
  simp only at ht hm hi
  cases mod <;> by_cases hl : len > 0 <;> by_cases he : etag = "" <;>
    simp [populate, getHeaders, Obj.seen, hl, he, hi, ht, hm]

theorem C10_get (k : Codecs D) (hk : k.OK) (o : Obj D) :
    populate k o.path o.data (getHeaders k o) = .ok o.seen :=
  C10_get_at k o (hk.tag _) (fun _ _ => hk.date _) (fun _ => hk.int _)

/-- PUT: the backend's path (whatever characters it has), entity tag and modification time come back to the caller -/
theorem C10_put_at (k : Codecs D) (reqPath : String) (sent : D) (res : Obj D) (hp : res.path ≠ "")
    (hh : k.unescHref (k.escHref res.path) = some res.path)
    (ht : k.unquoteTag (k.quoteTag res.etag) = some res.etag)
    (hm : ∀ t, res.modTime = some t → k.parseDate (k.fmtDate t) = some t) :
    populate k reqPath sent (putHeaders k res) = .ok ⟨res.path, res.modTime, 0, res.etag, sent⟩ := by
  obtain ⟨path, mod, len, etag, data⟩ := res
  simp only at hp hh ht hm
  cases mod <;> by_cases he : etag = "" <;> simp [populate, putHeaders, hp, he, hh, ht, hm]

theorem C10_put (k : Codecs D) (hk : k.OK) (reqPath : String) (sent : D) (res : Obj D) (hp : res.path ≠ "") :
    populate k reqPath sent (putHeaders k res) = .ok ⟨res.path, res.modTime, 0, res.etag, sent⟩ :=
  C10_put_at k reqPath sent res hp (hk.href _) (hk.tag _) (fun _ _ => hk.date _)

theorem multiget_eq (backend : String → Except (Option Nat) (Obj D)) (hrefs : List String) :
    multiget backend hrefs = hrefs.map fun h => (h, match backend h with
      | .ok o => .obj o | .error (some c) => .status c | .error none => .status 500) := by
  unfold multiget
  congr 1; funext h
  cases backend h with
  | ok o => rfl
  | error e => cases e <;> rfl

/-- multiget: every requested href is answered exactly once and in request order, whatever the backend says -/
theorem C10_multiget_accounting (backend : String → Except (Option Nat) (Obj D)) (hrefs : List String) :
    (multiget backend hrefs).map (·.1) = hrefs := by
  rw [multiget_eq, List.map_map]; exact List.map_id _

/-- …with the object when the backend has it, with the backend's own status otherwise -/
theorem C10_multiget_outcome (backend : String → Except (Option Nat) (Obj D)) (hrefs : List String) (i : Nat) (h : String)
    (hi : hrefs[i]? = some h) :
    (multiget backend hrefs)[i]? = some (h, match backend h with
      | .ok o => .obj o | .error (some c) => .status c | .error none => .status 500) := by
  rw [multiget_eq, List.getElem?_map, hi]; rfl

-- a value through a toy family of codecs (the identity; the real ones are C16's)

def toyCodecs : Codecs String :=
  { escHref := id, unescHref := some, quoteTag := id, unquoteTag := some, fmtDate := fun t => toString t,
    parseDate := fun s => s.toInt?, fmtInt := fun n => toString n, parseInt := fun s => s.toInt?, encData := id, decData := some }

example : calendarOf toyCodecs (calendarResp toyCodecs ⟨"/u/cal/a b/", "é<&>", "", 0, none⟩)
    = .ok (some ⟨"/u/cal/a b/", "é<&>", "", 0, some ["VEVENT"]⟩) := by decide

end GoWebdav.Props.C10
