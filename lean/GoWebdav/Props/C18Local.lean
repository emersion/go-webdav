import GoWebdav.Props.C18Frame
/-!
# C18, locality part — a request's answer and effect depend only on the subtrees it addresses

Over the file-server model (`Impl.Webdav.step`, tied by family `fsreq`).  `reads r` is what a request can look at:
everything below its target and (COPY / MOVE) below its destination — its `footprint` — plus the two parent
collections.  Two trees that agree on `reads r` give the same response, and wherever they also agree on a path they
still agree on it afterwards (`step_local`).  With the frame theorem (`C18_frame`: nothing outside the footprint
changes) this yields `C18_as_if_alone` and `C18_disjoint_commute`, the logic half of "concurrent requests that touch
disjoint resources each produce exactly the response and effect they produce when run alone".

A PROPFIND's multi-status lists its members in the order the tree holds them, so responses are compared with the
member lists as sets (`RespEq`).
-/
namespace GoWebdav.Props.C18
open GoWebdav GoWebdav.Std.Path GoWebdav.Std.Posix GoWebdav.Impl.Path GoWebdav.Impl.Webdav GoWebdav.Lemmas.Webdav

/-- the parent collection of `p` is `q` (the root has none inside the served tree) -/
def parentIs (p q : FPath) : Bool := p != [] && q == p.dropLast

def reads (r : Request) (q : FPath) : Bool :=
  footprint r q ||
  (match localPath [] r.path with
   | .ok p => parentIs p q
   | .error _ => false) ||
  (match r.dest with
   | .path d => (match localPath [] d with | .ok dp => parentIs dp q | .error _ => false)
   | _ => false)

def AgreeOn (r : Request) (t t' : FS) : Prop := ∀ q, reads r q = true → lookup t q = lookup t' q

def RespEq (a b : Response) : Prop := { a with multi := [] } = { b with multi := [] } ∧ ∀ x, x ∈ a.multi ↔ x ∈ b.multi

theorem RespEq.rfl' (a : Response) : RespEq a a := ⟨rfl, fun _ => Iff.rfl⟩
theorem RespEq.of_eq {a b : Response} (h : a = b) : RespEq a b := h ▸ RespEq.rfl' a
theorem RespEq.symm {a b : Response} (h : RespEq a b) : RespEq b a := ⟨h.1.symm, fun x => (h.2 x).symm⟩
theorem RespEq.trans {a b c : Response} (h1 : RespEq a b) (h2 : RespEq b c) : RespEq a c :=
  ⟨h1.1.trans h2.1, fun x => (h1.2 x).trans (h2.2 x)⟩

theorem RespEq.ite {c : Prop} [Decidable c] {a b a' b' : Response} (h : RespEq a a') (h' : RespEq b b') :
    RespEq (if c then a else b) (if c then a' else b') := by
  split <;> assumption

/-- what a handler needs of two trees at a target `p`: the same entries at and below `p`, the same parent collection -/
structure AgreeAt (t t' : FS) (p : FPath) : Prop where
  below : ∀ q, p.isPrefixOf q = true → lookup t q = lookup t' q
  parent : p ≠ [] → lookup t p.dropLast = lookup t' p.dropLast

theorem AgreeAt.self {t t' : FS} {p : FPath} (h : AgreeAt t t' p) : lookup t p = lookup t' p := h.below p (prefix_self p)

theorem AgreeAt.parentOK {t t' : FS} {p : FPath} (h : AgreeAt t t' p) : parentOK t p = parentOK t' p :=
  parentOK_congr t t' p h.parent

theorem agreeAt_target (r : Request) (t t' : FS) (h : AgreeOn r t t') (p : FPath) (hp : localPath [] r.path = .ok p) :
    AgreeAt t t' p :=
  ⟨fun q hq => h q (by unfold reads footprint; simp [hp, hq]),
   fun hne => h _ (by unfold reads; simp [hp, parentIs, hne])⟩

theorem agreeAt_dest (r : Request) (t t' : FS) (h : AgreeOn r t t') (d : Bytes) (hd : r.dest = .path d) (dp : FPath)
    (hp : localPath [] d = .ok dp) : AgreeAt t t' dp :=
  ⟨fun q hq => h q (by unfold reads footprint; simp [hd, hp, hq]),
   fun hne => h _ (by unfold reads; simp [hd, hp, parentIs, hne])⟩

theorem optionsResp_local (t t' : FS) (r : Request) (h : ∀ p, localPath [] r.path = .ok p → lookup t p = lookup t' p) :
    optionsResp t r = optionsResp t' r := by
  unfold optionsResp
  cases hp : localPath [] r.path with
  | error e => rfl
  | ok p => simp only [h p hp]

theorem headGetResp_local (t t' : FS) (r : Request) (h : ∀ p, localPath [] r.path = .ok p → lookup t p = lookup t' p) :
    headGetResp t r = headGetResp t' r := by
  unfold headGetResp
  cases hp : localPath [] r.path with
  | error e => rfl
  | ok p => simp only [h p hp]

theorem mem_paths (t : FS) (q : FPath) : q ∈ paths t ↔ (lookup t q).isSome = true := by
  unfold paths
  simp only [List.mem_filter, List.mem_eraseDups, and_iff_right_iff_imp, Option.isSome_iff_exists]
  exact fun ⟨e, h⟩ => List.mem_map.mpr ⟨_, mem_of_lookup h, rfl⟩

theorem member_below (p q : FPath) (depth : Int)
    (h : (if depth = 1 then (q = p || (q.length = p.length + 1 && p.isPrefixOf q)) else p.isPrefixOf q) = true) :
    p.isPrefixOf q = true := by
  split at h
  · simp only [decide_eq_true_eq, Bool.or_eq_true, Bool.and_eq_true] at h
    rcases h with rfl | ⟨_, hh⟩
    · exact prefix_self _
    · exact hh
  · exact h

theorem propfindResp_local (t t' : FS) (r : Request)
    (h : ∀ p, localPath [] r.path = .ok p → ∀ q, p.isPrefixOf q = true → lookup t q = lookup t' q) :
    RespEq (propfindResp t r) (propfindResp t' r) := by
  unfold propfindResp
  cases bodyForm r with
  | none => exact RespEq.rfl' _
  | some form =>
    dsimp only
    cases (if r.depth = "" then some (-1) else Generated.parseDepth r.depth) with
    | none => exact RespEq.rfl' _
    | some depth =>
      dsimp only
      cases hp : localPath [] r.path with
      | error e => exact RespEq.rfl' _
      | ok p =>
        dsimp only
        have hbelow := h p hp
        rw [← hbelow p (prefix_self p)]
        cases lookup t p with
        | none => exact RespEq.rfl' _
        | some e =>
          dsimp only
          refine .ite (.rfl' _) (.ite ⟨rfl, fun x => ?_⟩ (.rfl' _))
          -- the same members, each described from the same entry: a member lies below `p`, where the trees agree
          simp only [List.mem_filterMap, List.mem_filter, mem_paths]
          refine exists_congr fun q => ?_
          by_cases hq : (if depth = 1 then (q = p || (q.length = p.length + 1 && p.isPrefixOf q)) else p.isPrefixOf q) = true
          · rw [hbelow q (member_below p q depth hq)]
          · simp only [hq, Bool.false_eq_true, and_false, false_and]

/-- wherever `t` and `t'` agree, so do `a` and `b` -/
def Keeps (t t' a b : FS) : Prop := ∀ q, lookup t q = lookup t' q → lookup a q = lookup b q

theorem Keeps.refl (t t' : FS) : Keeps t t' t t' := fun _ h => h

theorem Keeps.ite {t t' a b a' b' : FS} {c : Prop} [Decidable c] (h : Keeps t t' a a') (h' : Keeps t t' b b') :
    Keeps t t' (if c then a else b) (if c then a' else b') := by
  split <;> assumption

theorem Keeps.set {t t' a b : FS} (h : Keeps t t' a b) (p : FPath) (e : Entry) :
    Keeps t t' (Std.Posix.set a p e) (Std.Posix.set b p e) :=
  fun q hq => by rw [lookup_set, lookup_set, h q hq]

theorem Keeps.removeAll {t t' a b : FS} (h : Keeps t t' a b) (p : FPath) : Keeps t t' (removeAll a p) (removeAll b p) :=
  fun q hq => by rw [lookup_removeAll, lookup_removeAll, h q hq]

/-- a deep copy also looks at the source subtree -/
theorem Keeps.graft {t t' a b : FS} (h : Keeps t t' a b) (src dst : FPath)
    (hsrc : ∀ x, lookup t (src ++ x) = lookup t' (src ++ x)) : Keeps t t' (graft a src dst) (graft b src dst) :=
  fun q hq => by rw [lookup_graft, lookup_graft, h _ (hsrc _), h q hq]

def LocalOut (t t' : FS) (a b : FS × Response) : Prop := RespEq a.2 b.2 ∧ Keeps t t' a.1 b.1

theorem LocalOut.of_resp (t t' : FS) {a b : Response} (h : RespEq a b) : LocalOut t t' (t, a) (t', b) := ⟨h, .refl t t'⟩

theorem LocalOut.same (t t' : FS) (resp : Response) : LocalOut t t' (t, resp) (t', resp) := .of_resp t t' (.rfl' resp)

theorem LocalOut.ite {t t' : FS} {c : Prop} [Decidable c] {a b a' b' : FS × Response} (h : LocalOut t t' a a')
    (h' : LocalOut t t' b b') : LocalOut t t' (if c then a else b) (if c then a' else b') := by
  split <;> assumption

theorem put_local (t t' : FS) (r : Request) (h : ∀ p, localPath [] r.path = .ok p → AgreeAt t t' p) :
    LocalOut t t' (put t r) (put t' r) := by
  unfold put
  cases hp : localPath [] r.path with
  | error e => exact .same ..
  | ok p =>
    have ha := h p hp
    simp only [ha.self, ha.parentOK]
    refine .ite (.same ..) ?_
    cases checkCond (lookup t' p).isSome r.ifMatch r.ifNoneMatch with
    | badRequest => exact .same ..
    | preconditionFailed => exact .same ..
    | proceed =>
      refine .ite (.same ..) ?_
      cases readBody r with
      | error u => exact ⟨.rfl' _, .removeAll (.refl t t') p⟩
      | ok c => exact ⟨.rfl' _, .set (.refl t t') p _⟩

theorem delete_local (t t' : FS) (r : Request) (h : ∀ p, localPath [] r.path = .ok p → AgreeAt t t' p) :
    LocalOut t t' (delete t r) (delete t' r) := by
  unfold delete
  cases hp : localPath [] r.path with
  | error e => exact .same ..
  | ok p =>
    simp only [(h p hp).self]
    cases lookup t' p with
    | none => exact .same ..
    | some e =>
      dsimp only
      cases checkCond true r.ifMatch r.ifNoneMatch with
      | badRequest => exact .same ..
      | preconditionFailed => exact .same ..
      | proceed => exact ⟨.rfl' _, .removeAll (.refl t t') p⟩

theorem mkcol_local (t t' : FS) (r : Request) (h : ∀ p, localPath [] r.path = .ok p → AgreeAt t t' p) :
    LocalOut t t' (mkcol t r) (mkcol t' r) := by
  unfold mkcol
  refine .ite (.same ..) ?_
  cases hp : localPath [] r.path with
  | error e => exact .same ..
  | ok p =>
    have ha := h p hp
    simp only [ha.self, ha.parentOK]
    exact .ite (.same ..) (.ite (.same ..) ⟨.rfl' _, .set (.refl t t') p _⟩)

theorem copyMove_local (t t' : FS) (isMove : Bool) (s d : Bytes) (rec ow : Bool)
    (hs : ∀ src, localPath [] s = .ok src → AgreeAt t t' src) (hd : ∀ dst, localPath [] d = .ok dst → AgreeAt t t' dst) :
    LocalOut t t' (copyMove t isMove s d rec ow) (copyMove t' isMove s d rec ow) := by
  unfold copyMove
  cases hls : localPath [] s with
  | error e => exact .same ..
  | ok src =>
    cases hld : localPath [] d with
    | error e => exact .same ..
    | ok dst =>
      have hsrc := hs src hls
      have hdst := hd dst hld
      simp only [hsrc.self, hdst.self]
      cases lookup t' src with
      | none => exact .same ..
      | some e =>
        -- freeing the destination leaves its parent alone, so both runs find it or miss it together
        simp only [parentOK_freed, hdst.parentOK]
        have k1 := Keeps.ite (c := (lookup t' dst).isSome = true) (.removeAll (.refl t t') dst) (.refl t t')
        have kg := k1.graft src dst (fun x => hsrc.below _ (prefix_append src x))
        -- overlap; a destination that may not be overwritten; no parent: the freed tree is handed back; the transfer
        refine .ite (.same ..) (.ite (.same ..) (.ite ⟨.rfl' _, k1⟩ ⟨.rfl' _, ?_⟩))
        -- MOVE, deep COPY, the bare collection
        exact .ite (kg.removeAll src) (.ite kg (k1.set dst .dir))

theorem copyMoveHandler_local (t t' : FS) (r : Request) (h : AgreeOn r t t') :
    LocalOut t t' (copyMoveHandler t r) (copyMoveHandler t' r) := by
  rcases copyMoveHandler_cases r with ⟨_, _, he⟩ | ⟨d, hd, _, _, _, _, he⟩ <;> rw [he, he]
  · exact LocalOut.same ..
  · exact copyMove_local t t' _ r.path d _ _ (agreeAt_target r t t' h) (agreeAt_dest r t t' h d hd)

theorem step_local (t t' : FS) (r : Request) (h : AgreeOn r t t') :
    RespEq (step t r).2 (step t' r).2 ∧ ∀ q, lookup t q = lookup t' q → lookup (step t r).1 q = lookup (step t' r).1 q := by
  have htarget : ∀ p, localPath [] r.path = .ok p → AgreeAt t t' p := fun p hp => agreeAt_target r t t' h p hp
  have hself : ∀ p, localPath [] r.path = .ok p → lookup t p = lookup t' p := fun p hp => (htarget p hp).self
  obtain ⟨_, hh, he⟩ := step_handler r
  rw [he, he]
  -- the goal is `LocalOut t t' (h t r) (h t' r)` unfolded
  cases hh with
  | options => exact LocalOut.of_resp t t' (.of_eq (optionsResp_local t t' r hself))
  | headGet => exact LocalOut.of_resp t t' (.of_eq (headGetResp_local t t' r hself))
  | put => exact put_local t t' r htarget
  | delete => exact delete_local t t' r htarget
  | propfind => exact LocalOut.of_resp t t' (propfindResp_local t t' r (fun p hp => (htarget p hp).below))
  | mkcol => exact mkcol_local t t' r htarget
  | copyMove => exact copyMoveHandler_local t t' r h
  | _ => exact LocalOut.same ..

theorem footprint_reads (r : Request) (q : FPath) (h : footprint r q = true) : reads r q = true := by
  unfold reads; simp [h]

/-- a request run after another one whose footprint avoids everything it can look at gets the response it gets
    alone, and leaves every path outside the other's footprint exactly as it leaves it when run alone -/
theorem C18_as_if_alone (t : FS) (r1 r2 : Request) (hdisj : ∀ q, footprint r1 q = true → reads r2 q = false) :
    RespEq (step (step t r1).1 r2).2 (step t r2).2 ∧
    ∀ q, footprint r1 q = false → lookup (step (step t r1).1 r2).1 q = lookup (step t r2).1 q := by
  have hagree : AgreeOn r2 (step t r1).1 t := by
    intro q hq
    apply C18_frame t r1 q
    cases hf : footprint r1 q with
    | false => rfl
    | true => rw [hdisj q hf] at hq; cases hq
  obtain ⟨h1, h2⟩ := step_local (step t r1).1 t r2 hagree
  exact ⟨h1, fun q hq => h2 q (C18_frame t r1 q hq)⟩

/-- two requests neither of which can look at what the other touches: in either order they get the same two
    responses and end in the same tree — the outcome of any schedule is that of running them one at a time -/
theorem C18_disjoint_commute (t : FS) (r1 r2 : Request)
    (h12 : ∀ q, footprint r1 q = true → reads r2 q = false) (h21 : ∀ q, footprint r2 q = true → reads r1 q = false) :
    RespEq (step (step t r1).1 r2).2 (step t r2).2 ∧ RespEq (step (step t r2).1 r1).2 (step t r1).2 ∧
    Same (step (step t r1).1 r2).1 (step (step t r2).1 r1).1 := by
  obtain ⟨ha1, ha2⟩ := C18_as_if_alone t r1 r2 h12
  obtain ⟨hb1, hb2⟩ := C18_as_if_alone t r2 r1 h21
  refine ⟨ha1, hb1, ?_⟩
  intro q
  cases hf1 : footprint r1 q with
  | true =>
    -- q is r1's: r2 does not touch it
    have hf2 : footprint r2 q = false := by
      cases hf : footprint r2 q with
      | false => rfl
      | true => have := h12 q hf1; rw [footprint_reads r2 q hf] at this; cases this
    rw [C18_frame (step t r1).1 r2 q hf2, hb2 q hf2]
  | false =>
    -- q is not r1's: r1 does not touch it, whatever r2 did
    rw [ha2 q hf1, C18_frame (step t r2).1 r1 q hf1]

-- non-vacuity: PUT /a/x and DELETE /b/y under the root neither reads what the other touches
example : ∀ q, footprint { method := "PUT", path := [47, 97, 47, 120] } q = true →
    reads { method := "DELETE", path := [47, 98, 47, 121] } q = false := by
  intro q h
  have hp : localPath [] [47, 97, 47, 120] = .ok [[97], [120]] := by decide
  have hd : localPath [] [47, 98, 47, 121] = .ok [[98], [121]] := by decide
  unfold footprint at h
  simp only [hp, Bool.or_false] at h
  unfold reads footprint parentIs
  simp only [hd, Bool.or_false]
  rw [List.isPrefixOf_iff_prefix] at h
  obtain ⟨rest, rfl⟩ := h
  simp [List.isPrefixOf]

end GoWebdav.Props.C18
