import GoWebdav.Lemmas.Outcome
/-!
# C02 — Refused or failed requests never change or destroy stored data

Proved from the model's definitions (not from the refinement), through the outcomes of `Lemmas.Outcome`: every error
exit is taken before the first mutating call, or after a mutation that restores the previous map.

OPEN FINDING (known_findings.json, class `put-body-fault-existing-file`): a PUT over an existing file whose body
breaks off — `os.Create` has truncated the file and the error path removes it.  `FaultRegion` covers that region
(it does not look at the conditional headers, so it also holds the PUTs refused with 400 or 412 before the file is
opened); `C02_put_fault_destroys` proves the negation of the full statement at a witness inside it.
-/
namespace GoWebdav.Props.C02
open GoWebdav GoWebdav.Std.Path GoWebdav.Std.Posix GoWebdav.Impl.Path GoWebdav.Impl.Webdav GoWebdav.Spec.Rfc4918 GoWebdav.Lemmas.Webdav

def FaultRegion (t : FS) (r : Request) : Prop :=
  r.method = "PUT" ∧ r.fault.isSome = true ∧ ∃ p c, localPath [] r.path = .ok p ∧ lookup t p = some (.file c)

theorem options_tree (t : FS) (r : Request) : (options t r).1 = t := rfl
theorem headGet_tree (t : FS) (r : Request) : (headGet t r).1 = t := rfl
theorem proppatch_tree (t : FS) (r : Request) : (proppatch t r).1 = t := rfl
theorem propfind_tree (t : FS) (r : Request) : (propfind t r).1 = t := rfl

/-- of the seven outcomes only three can carry a failure status: the tree handed back, the broken-off PUT, and the
    COPY / MOVE that finds no parent for its destination -/
theorem outcome_failed {t : FS} {r : Request} {out : FS × Response} (hwf : WF t) (hnr : ¬ FaultRegion t r)
    (ho : Outcome t r out) (h : out.2.status ≥ 400) : Same out.1 t := by
  cases ho with
  | kept => exact same_refl t
  | putFault p _ hm hf hp hdir =>
    -- outside the fault region the target did not exist, so removing it restores the tree
    cases hl : lookup t p with
    | none => exact same_removeAll_absent t hwf p hl
    | some e =>
      cases e with
      | dir => exact absurd hl hdir
      | file c => exact absurd ⟨hm, hf, p, c, hp, hl⟩ hnr
  | noParent _ dst _ _ _ _ hfrom hpar =>
    rcases hfrom with rfl | rfl
    · exact same_refl _
    · -- removing the destination leaves its parent alone, and without a parent there was no destination to remove
      rw [parentOK_removeAll] at hpar
      exact same_removeAll_absent t hwf dst (absent_of_no_parent t hwf dst hpar)
  -- the four outcomes that change the tree for good carry `resp.status < 400`
  | _ => exact absurd h (Nat.not_le.mpr ‹_ < 400›)

theorem put_failed (t : FS) (hwf : WF t) (r : Request) (hm : r.method = "PUT") (hnr : ¬ FaultRegion t r)
    (h : (put t r).2.status ≥ 400) : Same (put t r).1 t := outcome_failed hwf hnr (put_outcome t r hm) h

/-- `copyMove` is stated on loose arguments, outcomes on a request: any request with this path and destination will do,
    and one that is not a PUT lies outside the region -/
theorem copyMove_failed (t : FS) (hwf : WF t) (isMove : Bool) (s d : Bytes) (rec ow : Bool)
    (h : (copyMove t isMove s d rec ow).2.status ≥ 400) : Same (copyMove t isMove s d rec ow).1 t :=
  outcome_failed hwf (fun hr => absurd hr.1 (by decide : "COPY" ≠ "PUT"))
    (copyMove_outcome t { method := "COPY", path := s, dest := .path d } isMove d rec ow rfl) h

/-- whenever the file server answers with a 4xx or 5xx status, the tree (names, kinds, contents) is exactly what
    it was — for every tree and every request outside the open finding's region -/
theorem C02_failed_unchanged_partial (t : FS) (hwf : WF t) (r : Request) (hnr : ¬ FaultRegion t r)
    (h : (step t r).2.status ≥ 400) : Same (step t r).1 t := outcome_failed hwf hnr (step_outcome t r) h

/-- the full statement is FALSE inside the region: PUT /f with a body failing at offset 0 over {/, /f ↦ "a"}
    answers 500 and the file is gone (replayed against the Go code by family fsreq) -/
theorem C02_put_fault_destroys :
    let t : FS := [([[102]], .file [97]), ([], .dir)]
    let r : Request := { method := "PUT", path := [47, 102], body := [104], fault := some 0 }
    WF t ∧ (step t r).2.status = 500 ∧ lookup (step t r).1 [[102]] = none ∧ lookup t [[102]] = some (.file [97]) := by
  exact ⟨wf_of_entries _ (by decide), by decide, by decide, by decide⟩

/-- a request refused with 412 outside the region leaves the tree it found: one step from any well-formed tree, hence
    from any tree a run reaches (reachability preserves `WF`, see C01) -/
theorem C02_412_changes_nothing (t : FS) (hwf : WF t) (r : Request) (hnr : ¬ FaultRegion t r)
    (h : (step t r).2.status = 412) : Same (step t r).1 t :=
  C02_failed_unchanged_partial t hwf r hnr (by rw [h]; decide)

end GoWebdav.Props.C02
