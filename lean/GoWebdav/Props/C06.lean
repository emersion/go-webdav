import GoWebdav.Lemmas.Caldav
/-!
# C06 — CalDAV filter evaluation follows RFC 4791 §9.7–9.9

`Impl.Caldav` mirrors caldav/match.go (after the `fix:` commits recorded in known_findings.json);
`Spec.Caldav` is written from the RFC text as quoted by the property.
Hypothesis `wf`: every VEVENT has a DTSTART and recurrence instances ascend (RFC 5545).
The theorems are of the form "whenever the implementation answers, the answer is the specification's";
the implementation answers unless it reaches an unparsable date/time value (then it reports the parse error).
-/
namespace GoWebdav.Props.C06
open GoWebdav GoWebdav.Impl.Caldav GoWebdav.Spec.Caldav GoWebdav.Lemmas.Caldav

/-- the arithmetic core: for ALL integers (so every ordering and every equality of range start, range end,
    DTSTART and the event's end) the interval test of the implementation is the RFC's -/
theorem C06_overlap_all_orderings (rs re s e : Int) :
    intervalOverlaps rs re s e = (if s < e then lt rs e && gt re s else le rs s && gt re s) :=
  intervalOverlaps_spec rs re s e

/-- a non-recurring VEVENT against a time range: the §9.9 table, for each way of stating the end -/
theorem C06_event_time_range (rs re s : Int) (isDate : Bool) (es : EndSpec) (props : List IProp) (ch : List Component)
    (hes : es ≠ .dtend none ∧ es ≠ .duration none) :
    matchCompTimeRange rs re (.mk "VEVENT" props ⟨.none, some (some s, isDate), es⟩ ch)
      = .ok (overlapTable rs re s isDate es) := by
  rw [timeRange_vevent rs re s isDate es .none props ch nofun, if_neg (by simp [hes])]
  rfl

/-- a recurring VEVENT matches iff some instance overlaps (each instance lasting as long as the event) -/
theorem C06_recurring_time_range (rs re s first step : Int) (count : Nat) (isDate : Bool) (es : EndSpec)
    (props : List IProp) (ch : List Component) (hstep : 0 ≤ step) (b : Bool)
    (h : matchCompTimeRange rs re (.mk "VEVENT" props ⟨.rule first step count, some (some s, isDate), es⟩ ch) = .ok b) :
    b = (instances first step count).any (fun t => overlapAt rs re t (durationOf s isDate es)) := by
  rw [timeRange_vevent rs re s isDate es _ props ch (by rintro _ _ _ ⟨⟩; exact hstep)] at h
  split at h
  · cases h
  · rename_i hes
    cases h
    simp only [not_or] at hes
    simp [rangeHolds, Component.name, Component.timing, hes.2]

/-- Match: whenever it answers, it answers what RFC 4791 §9.7 prescribes — every filter tree, every well-formed object -/
theorem C06_match_sound (f : CompFilter) (c : Component) (hwf : wf c = true) (b : Bool)
    (h : matchF f c = .ok b) : b = holdsF f c := matchF_sound f c hwf b h

/-- Filter returns exactly the matching objects, in input order and unmodified -/
theorem C06_filter_selection (f : CompFilter) (cos : List (String × Component)) (hwf : ∀ co ∈ cos, wf co.2 = true)
    (out : List (String × Component)) (h : filter (some f) cos = .ok out) :
    out = cos.filter (fun co => holdsF f co.2) :=
  filterLoop_sound f _ cos out (fun co hco => matchF_sound f co.2 (hwf co hco)) h

/-- … and all of them for a nil query -/
theorem C06_filter_nil (cos : List (String × Component)) : filter none cos = .ok cos := rfl

def exEvent : Component :=
  .mk "VEVENT" [⟨"SUMMARY", "lunch", [("X-P", ["v"])], none⟩] ⟨.none, some (some 1000, false), .duration (some 600)⟩ []
def exCal : Component := .mk "VCALENDAR" [] ⟨.none, none, .none⟩ [exEvent]
def exFilter : CompFilter :=
  .mk "VCALENDAR" false Z Z [] [
    .mk "VEVENT" false 1599 2000 [⟨"SUMMARY", false, Z, Z, some ⟨"unc", false⟩, [⟨"X-P", false, none⟩]⟩, ⟨"DESCRIPTION", true, Z, Z, none, []⟩] [],
    .mk "VTODO" true Z Z [] []]

example : wf exCal = true := by decide
example : matchF exFilter exCal = .ok true := by decide
example : holdsF exFilter exCal = true := by decide

end GoWebdav.Props.C06
