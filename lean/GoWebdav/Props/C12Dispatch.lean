import GoWebdav.Impl.Propfind
import GoWebdav.Impl.Frontend
import GoWebdav.Lemmas.Dispatch
/-!
# C12, dispatch part — what each level of the hierarchy exposes, and where a collection may be created

Over the models already tied to the handlers (`Impl.Propfind.scope` by family `pfscope`, `Impl.Frontend.serve` by
family `srvfront`): a PROPFIND addressed to a principal-level or home-set-level path other than the current user's
exposes none of the current user's resources (for every hierarchy, every path, every Depth); the user's own paths
expose exactly the hierarchy below them; MKCOL creates a collection at collection level only and is refused with 403
everywhere else without reaching the backend.
-/
namespace GoWebdav.Props.C12
open GoWebdav GoWebdav.Impl.Propfind

/-- a principal-level path other than the current user's exposes nothing -/
theorem C12_foreign_principal_exposes_nothing (h : Hierarchy) (path : String) (d : DepthV) (hne : path ≠ h.principal) :
    scope h path .principal d = [] := by
  unfold scope; simp [hne]

/-- a home-set-level path other than the current user's exposes nothing -/
theorem C12_foreign_homeSet_exposes_nothing (h : Hierarchy) (path : String) (d : DepthV) (hne : path ≠ h.homeSet) :
    scope h path .homeSet d = [] := by
  unfold scope; simp [hne]

/-- nothing is exposed below an object -/
theorem C12_nothing_below_objects (h : Hierarchy) (path : String) (d : DepthV) : scope h path .deeper d = [] := rfl

/-- a collection-level path exposes something only if the backend has that collection; an object-level path only if
    some collection holds that object -/
theorem C12_unknown_collection_or_object (h : Hierarchy) (path : String) (d : DepthV) :
    (h.collections.find? (fun c => c.1 == path) = none → scope h path .collection d = []) ∧
    (h.collections.any (fun c => c.2.contains path) = false → scope h path .object d = []) := by
  constructor
  · intro hn; unfold scope; simp [hn]
  · intro hn; unfold scope; simp only [hn, Bool.false_eq_true, if_false]

/-- the user's own principal exposes itself, then the home set, then (Depth infinity) every collection with its objects -/
theorem C12_own_principal (h : Hierarchy) :
    scope h h.principal .principal .zero = [h.principal] ∧
    scope h h.principal .principal .one = [h.principal, h.homeSet] ∧
    scope h h.principal .principal .infinity = h.principal :: h.homeSet :: allCollections h true := by
  refine ⟨?_, ?_, ?_⟩ <;> simp [scope]

theorem C12_own_homeSet (h : Hierarchy) :
    scope h h.homeSet .homeSet .zero = [h.homeSet] ∧
    scope h h.homeSet .homeSet .one = h.homeSet :: h.collections.map (·.1) ∧
    scope h h.homeSet .homeSet .infinity = h.homeSet :: allCollections h true := by
  refine ⟨?_, ?_, ?_⟩
  · simp [scope]
  · simp [scope, allCollections, List.map_eq_flatMap]
  · simp [scope]

open GoWebdav.Impl.Frontend in
/-- MKCOL outside collection level is refused with 403 and never reaches the backend; at collection level a body-less
    MKCOL creates the collection -/
theorem C12_mkcol_only_at_collection_level (r : Req) (hs : r.srv ≠ .prin) (hm : r.method = "MKCOL") :
    (r.level ≠ 3 → serve r = ⟨403, false⟩) ∧ (r.level = 3 → r.body = .empty → serve r = ⟨201, true⟩) := by
  have hserve : serve r = mkcol r := by
    fun_cases serve r with
    | case1 hp => exact absurd hp hs
    | case2 _ => rw [Lemmas.Dispatch.davServe_eq]; simp +decide [hm]
  rw [hserve]
  unfold mkcol mkcolK
  constructor
  · intro hl; simp [hl, refuse]
  · intro hl hb; simp [hl, hb]

example : scope ⟨"/u/", "/u/cal/", [("/u/cal/a/", ["/u/cal/a/x.ics"])]⟩ "/u/ca" .homeSet .infinity = [] ∧
    scope ⟨"/u/", "/u/cal/", [("/u/cal/a/", ["/u/cal/a/x.ics"])]⟩ "/u/cal/" .homeSet .infinity = ["/u/cal/", "/u/cal/a/", "/u/cal/a/x.ics"] := by
  decide

section Options
open GoWebdav.Impl.Frontend

/-- OPTIONS follows the level like every other method: only at object depth is an object looked up, and only there are
    the object's methods announced; every other depth — the deeper ones included — gets the collection-side answer
    (collections can be created and listed from there, nothing can be PUT) without any object look-up -/
theorem C12_options_by_level (r : Req) :
    (r.level ≠ 4 → (options r).objectReads = 0 ∧ "MKCOL" ∈ (options r).allow ∧ "PUT" ∉ (options r).allow ∧ "GET" ∉ (options r).allow) ∧
    (r.level = 4 → (options r).objectReads = 1 ∧ "PUT" ∈ (options r).allow ∧ "MKCOL" ∉ (options r).allow ∧
      ("GET" ∈ (options r).allow ↔ r.exists_ = true)) := by
  constructor
  · intro h; simp [options, optionsK, h]
  · intro h; cases he : r.exists_ <;> simp [options, optionsK, h, he]

/-- the answer to OPTIONS depends on nothing but the level and, at object level, the object's existence: not on the
    content type, the body, or any header class of the request -/
theorem C12_options_depends_on_level_only (r r' : Req) (hl : r.level = r'.level) (he : r.exists_ = r'.exists_) :
    options r = options r' := by simp [options, hl, he]

-- non-vacuity: the three answers exist
example : (optionsK 5 true).objectReads = 0 ∧ (optionsK 4 true).allow.length = 6 ∧ (optionsK 4 false).allow = ["OPTIONS", "PUT"] := by decide

end Options

end GoWebdav.Props.C12
