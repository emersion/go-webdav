import GoWebdav.Impl.ClientResp
/-!
# C14 — Clients survive any response and report failures with their status

Model `Impl.ClientResp`: the decision logic every client method goes through.  Proved for all status codes, content
types, body classes and multi-status shapes:

* `Do` returns an error exactly when the status is not 2xx, and the error carries exactly that status code; a
  DAV:error body announced as XML is carried inside it;
* a multi-status is accepted exactly when the status is 207 and the body decodes;
* inside a multi-status a value is only ever taken from a propstat with status 200 of a response that is not itself
  failed; a failed response is an error whose code is the response's; sync-collection classifies a 404 resource as
  deleted and never as updated.

"Without panicking or hanging" is a property of the Go runtime and of `encoding/xml` / the object parsers: tied by
family `climeth` (every public method of the three clients under `recover` and a watchdog, against scripted
responses incl. truncation at every offset), not proved.
-/
namespace GoWebdav.Props.C14
open GoWebdav.Impl.ClientResp

theorem C14_do_error_carries_status (status : Nat) (ct : CT) (b : EBody) (h : status / 100 ≠ 2) :
    ∃ w, doOut status ct b = .http status w := by
  fun_cases doOut status ct b with
  | case1 _ h2xx => exact absurd h2xx h   -- the one exit that is not an error
  | _ => exact ⟨_, rfl⟩

theorem C14_do_error_iff (status : Nat) (ct : CT) (b : EBody) : doOut status ct b = .ok ↔ status / 100 = 2 := by
  by_cases h : status / 100 = 2
  · simp [doOut, h]
  · obtain ⟨w, hw⟩ := C14_do_error_carries_status status ct b h
    simp [hw, h]

/-- a DAV:error document announced as XML travels inside the error (for every non-2xx status) -/
theorem C14_dav_error_carried (status : Nat) (ct : CT) (h : status / 100 ≠ 2) (hx : isXmlCT ct = true) :
    doOut status ct .davError = .http status .dav := by
  unfold doOut; simp [h, hx]

theorem C14_multistatus_iff (status : Nat) (ct : CT) (eb : EBody) (mb : MsBody) :
    msOut status ct eb mb = .ok ↔ status = 207 ∧ mb = .decodes := by
  unfold msOut
  by_cases h : status / 100 = 2
  · rw [(C14_do_error_iff status ct eb).mpr h]
    by_cases h7 : status = 207 <;> cases mb <;> simp [h7]
  · obtain ⟨w, hw⟩ := C14_do_error_carries_status status ct eb h
    have h7 : status ≠ 207 := by rintro rfl; exact h rfl
    simp [hw, h7]

/-- an answer whose status is not 2xx is an error that carries the status code -/
theorem C14_multistatus_error_code (status : Nat) (ct : CT) (eb : EBody) (mb : MsBody) (h : status / 100 ≠ 2) :
    ∃ w, msOut status ct eb mb = .http status w := by
  obtain ⟨w, hw⟩ := C14_do_error_carries_status status ct eb h
  exact ⟨w, by unfold msOut; rw [hw]⟩

theorem respPath_of_err {r : Resp} {c : Nat} (he : respErr r = some c) :
    respPath r = .http c (match r.hrefs with | [h] => h | _ => "") := by
  unfold respPath
  rw [he]
  split <;> simp_all

theorem respPath_eq_ok {r : Resp} {p : String} : respPath r = .ok p ↔ respErr r = none ∧ r.hrefs = [p] := by
  unfold respPath
  cases respErr r <;> rcases r.hrefs with _ | ⟨a, _ | ⟨b, l⟩⟩ <;> simp

theorem findStat_spec (name : String) (l : List PropStat) (k i : Nat) (ps : PropStat) (h : findStat name l k = some (i, ps)) :
    k ≤ i ∧ l[i - k]? = some ps ∧ ps.props.contains name = true := by
  fun_induction findStat name l k with
  | case1 => cases h
  | case2 p rest k hc => cases h; exact ⟨Nat.le_refl _, by simp, hc⟩
  | case3 p rest k _ ih =>
    obtain ⟨hle, hget, hmem⟩ := ih h
    refine ⟨by omega, ?_, hmem⟩
    rwa [show i - k = (i - (k + 1)) + 1 by omega, List.getElem?_cons_succ]

/-- a property or resource reported with a non-success status never comes out as data -/
theorem C14_value_only_from_success (r : Resp) (name : String) (i : Nat) (h : decodeProp r name = .value i) :
    respErr r = none ∧ ∃ ps, r.propstats[i]? = some ps ∧ ps.status = 200 ∧ ps.props.contains name = true := by
  revert h
  -- only the last exit hands out a value
  fun_cases decodeProp r name with
  | case4 he j ps hf hs =>
    rintro ⟨⟩
    obtain ⟨_, hget, hmem⟩ := findStat_spec name r.propstats 0 _ ps hf
    exact ⟨he, ps, by simpa using hget, Decidable.not_not.mp hs, hmem⟩
  | _ => nofun

/-- a failed response fails every property of it, with the response's code -/
theorem C14_failed_response (r : Resp) (c : Nat) (h : r.status = some c) (hc : c / 100 ≠ 2) (name : String) :
    decodeProp r name = .http c ∧ (∃ p, respPath r = .http c p) := by
  have he : respErr r = some c := by simp [respErr, h, hc]
  exact ⟨by simp [decodeProp, he], _, respPath_of_err he⟩

/-- the DAV:error element of a failed response travels inside the error, with or without a description -/
theorem C14_failed_response_carries_error_element (r : Resp) (h : r.hasError = true) : respWrapped r = .dav := by
  unfold respWrapped; simp [h]

/-- a property listed under a non-200 propstat is an error carrying that propstat's code -/
theorem C14_failed_propstat (r : Resp) (name : String) (i : Nat) (ps : PropStat) (he : respErr r = none)
    (hf : findStat name r.propstats 0 = some (i, ps)) (hs : ps.status ≠ 200) : decodeProp r name = .http ps.status := by
  unfold decodeProp; simp [he, hf, hs]

/-- sync-collection: a resource reported 404 is a deletion, any other failed resource fails the call, and a failed
    resource is never reported as updated -/
theorem C14_sync_classification (reqPath : String) (r : Resp) :
    (∀ c, respErr r = some c → (syncOne reqPath r = .fail ∨ ∃ p, syncOne reqPath r = .deleted p)) ∧
    (∀ h, r.hrefs = [h] → respErr r = some 404 → syncOne reqPath r = .deleted h) ∧
    (∀ p, syncOne reqPath r = .updated p → respErr r = none ∧ r.hrefs = [p]) := by
  have herr : ∀ c, respErr r = some c →
      syncOne reqPath r = if c = 404 then .deleted (match r.hrefs with | [h] => h | _ => "") else .fail := by
    intro c hc; simp only [syncOne, respPath_of_err hc]
  refine ⟨fun c hc => ?_, fun h hh he => ?_, fun p => ?_⟩
  · rw [herr c hc]; split
    · exact .inr ⟨_, rfl⟩
    · exact .inl rfl
  · rw [herr 404 he, hh]; rfl
  · -- of the six exits only the fifth is an update
    fun_cases syncOne reqPath r with
    | case5 q hq => rintro ⟨⟩; exact respPath_eq_ok.mp hq
    | _ => nofun

/-- `PropFindFlat` hands out a response only when the multi-status holds exactly one -/
theorem C14_flat (rs : List Resp) (r : Resp) : flat rs = some r ↔ rs = [r] := by
  unfold flat
  split <;> simp_all [eq_comm]

example : decodeProp { hrefs := ["/a"], status := none, propstats := [⟨404, ["getetag"]⟩, ⟨200, ["getetag", "displayname"]⟩] } "getetag" = .http 404 := by decide
example : decodeProp { hrefs := ["/a"], status := none, propstats := [⟨404, ["getetag"]⟩, ⟨200, ["displayname"]⟩] } "displayname" = .value 1 := by decide
example : syncOne "/ab/" { hrefs := ["/ab/x.vcf"], status := some 404, propstats := [] } = .deleted "/ab/x.vcf" := by decide
example : syncOne "/ab/" { hrefs := ["/ab/x.vcf"], status := none, propstats := [⟨200, ["getetag"]⟩] } = .updated "/ab/x.vcf" := by decide
example : syncOne "/ab/" { hrefs := ["/ab/x.vcf"], status := none, propstats := [⟨403, ["getetag"]⟩] } = .fail := by decide
example : respWrapped { hrefs := ["/a"], status := some 423, propstats := [], hasError := true, hasDesc := true } = .dav := by decide
example : doOut 403 .xml .davError = .http 403 .dav ∧ doOut 199 .absent .blank = .http 199 .nothing ∧ doOut 204 .bad .garbage = .ok := by decide

end GoWebdav.Props.C14
