import GoWebdav.Lemmas.CarddavAgree
/-!
# C09, general statement — every expressible addressbook-query reaches the backend as the caller wrote it

The round trip goes through the strict RFC 6352 reader: what the client writes is a document the reader reads to
`denotes q` (`Lemmas/CarddavRead.lean`), and on every document the reader accepts the decoder agrees with it
(`Lemmas/CarddavAgree.lean`).
-/
namespace GoWebdav.Props.C09
open GoWebdav GoWebdav.Std.Xml GoWebdav.Impl.CarddavWire GoWebdav.Lemmas.CarddavWire

/-- client → wire → backend for EVERY query RFC 6352 can express: any number of prop-filters, each with any number of
    text-matches (any text, match type, negation) and param-filters, is-not-defined at both levels, both filter tests,
    all-properties or any list of property names, and every limit a Go `int` can hold — the client encodes it and
    the server hands the backend exactly `denotes q` -/
theorem C09_query_reaches_backend (q : Query) (h : Expressible q) (hlim : q.limit < 9223372036854775808) :
    (encodeQuery q).bind decodeQuery = .ok (some (denotes q)) := by
  have hd : (denotes q).limit < 9223372036854775808 := by simp only [denotes]; split <;> omega
  rw [encodeQuery_ok q h, Except.bind]
  exact Lemmas.CarddavAgree.decodeQuery_of_read _ _ (Lemmas.CarddavRead.readQuery_queryNode q h) hd

example : Expressible exQuery := by
  simp only [Expressible, PFok, Paramok, TMok, exQuery, List.forall_mem_cons, List.not_mem_nil, false_imp_iff, implies_true, and_true,
    Option.some.injEq, forall_eq']
  decide +kernel

end GoWebdav.Props.C09
