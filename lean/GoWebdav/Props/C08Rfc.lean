import GoWebdav.Lemmas.CaldavAgree
import GoWebdav.Lemmas.CaldavNoise
/-!
# C08, wire → backend for every RFC-conformant document — against the independent strict reader

`Spec.CaldavWire.readQuery` / `readMultiGet` are the strict reading of the RFC 4791 grammar (namespaces, child order,
declared attributes, at least one bound on a time-range, is-not-defined alone).  For EVERY document that reader accepts —
whoever wrote it, at any nesting depth, with any number of prop-filters, param-filters and nested comp-filters — the
server's decoder hands the backend exactly the request the document denotes; the decoder does not see comments and
white space between elements, so the same holds of every document that is conformant once those are set aside; and the
same for the filter elements on their own.  (The client → wire direction is in `Props/C08.lean`.)
-/
namespace GoWebdav.Props.C08
open GoWebdav GoWebdav.Std.Xml GoWebdav.Impl.Caldav GoWebdav.Impl.CaldavWire GoWebdav.Spec.CaldavWire

/-- calendar-query, whichever options of the grammar the document uses: DAV:prop / DAV:allprop / DAV:propname or none in
    front, calendar-data with or without comp and expand, a timezone element, component selections of any depth -/
theorem C08_rfc_document_reaches_backend (n : Node) (q : Query) (h : readQuery n = some q) : decodeQuery n = .ok q :=
  GoWebdav.Lemmas.CaldavAgree.decodeQuery_of_read n q h

/-- insignificant content: comments, and white space between the elements of an element-content model, anywhere in ANY
    document; the character data of text-match, href and timezone is left alone -/
theorem C08_decoder_ignores_insignificant_content (n : Node) :
    decodeQuery (Spec.XmlNoise.clean Lemmas.CaldavNoise.pc n) = decodeQuery n :=
  Lemmas.CaldavNoise.decodeQuery_clean n

/-- the same for multiget documents -/
theorem C08_multiget_decoder_ignores_insignificant_content (unescape : String → Option String) (n : Node) :
    decodeMultiGet unescape (Spec.XmlNoise.clean Lemmas.CaldavNoise.pc n) = decodeMultiGet unescape n :=
  Lemmas.CaldavNoise.decodeMultiGet_clean unescape n

/-- …hence `C08_rfc_document_reaches_backend` for every document that is conformant once that content is set aside
    (pretty-printed, commented) -/
theorem C08_rfc_document_reaches_backend_lexical (n : Node) (q : Query)
    (h : readQuery (Spec.XmlNoise.clean Lemmas.CaldavNoise.pc n) = some q) : decodeQuery n = .ok q := by
  rw [← C08_decoder_ignores_insignificant_content n]
  exact C08_rfc_document_reaches_backend _ q h

/-- calendar-multiget: data request and hrefs in order -/
theorem C08_rfc_multiget_reaches_backend (unescape : String → Option String) (n : Node) (m : MultiGet)
    (h : readMultiGet unescape n = some m) : decodeMultiGet unescape n = .ok m :=
  GoWebdav.Lemmas.CaldavAgree.decodeMultiGet_of_read unescape n m h

/-- the filter elements on their own -/
theorem C08_rfc_filter_reaches_backend (n : Node) (cf : CompFilter) (h : readCompFilter n = some cf) :
    decCompFilter n = .ok cf :=
  GoWebdav.Lemmas.CaldavAgree.decCompFilter_of_read n cf h

theorem C08_rfc_propFilter_reaches_backend (n : Node) (p : PropFilter) (h : readPropFilter n = some p) :
    decPropFilter n = .ok p :=
  GoWebdav.Lemmas.CaldavAgree.decPropFilter_of_read n p h

theorem C08_rfc_paramFilter_reaches_backend (n : Node) (p : ParamFilter) (h : readParamFilter n = some p) :
    decParamFilter n = .ok p :=
  GoWebdav.Lemmas.CaldavAgree.decParamFilter_of_read n p h

/-- a conformant filter the library's own client never writes (an explicit collation and negate-condition="no", a
    time-range with only an end, nesting) meets the hypothesis -/
def foreignFilter : Node :=
  el "comp-filter" [att "name" "VCALENDAR"]
    [el "comp-filter" [att "name" "VEVENT"]
      [el "time-range" [att "end" "20240301T000000Z"] [],
       el "prop-filter" [att "name" "ATTENDEE"]
         [el "text-match" [att "collation" "i;ascii-casemap", att "negate-condition" "no"] [.text " x "],
          el "param-filter" [att "name" "PARTSTAT"] [el "is-not-defined" [] []]],
       el "comp-filter" [att "name" "VALARM"] [el "is-not-defined" [] []]]]

example : (readCompFilter foreignFilter).isSome = true := by decide +kernel

/-- a whole conformant document of that kind: DAV:prop with a versioned calendar-data that expands but selects no
    component, the filter above, a timezone -/
def foreignDoc : Node :=
  el "calendar-query" []
    [dav "prop" [dav "getetag" [], el "calendar-data" [att "content-type" "text/calendar", att "version" "2.0"]
       [el "expand" [att "start" "20240101T000000Z", att "end" "20240201T000000Z"] []]],
     el "filter" [] [foreignFilter],
     el "timezone" [] [.text "BEGIN:VTIMEZONE"]]

example : (readQuery foreignDoc).isSome = true := by decide +kernel

end GoWebdav.Props.C08
